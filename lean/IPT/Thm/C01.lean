import IPT.Lemmas.Hours
import IPT.Lemmas.ExtLat
import IPT.Lemmas.Times
import IPT.Thm.C13
import IPT.Thm.C07
import IPT.Spec.Vsop
/-
  C01 — Dhuhr is the instant of local apparent solar noon (PARTIAL).
  Proved: Dhuhr is always reported, under all 15 policies (every scalar type); the transit
  fraction and hour angle are the stated quantities modulo whole turns (ℝ); the one-step hour-angle
  correction leaves a residual H·κ with κ = (Δ₁/2 + Δ₂(m+m′)/2 − 0.985647)/360 (exact identity, ℝ);
  the right-ascension wrap handling yields the differences of the unwrapped sequence (ℝ); the
  Julian Day is the civil day number plus a constant (Thm C13); the VSOP87/nutation tables and the
  sidereal constants are the published ones (frozen snapshot).
  NOT proved: that the truncated VSOP87 theory agrees with the sky within 10 s — decided by the
  falsifier against an independent ephemeris; the envelope (daily RA motion in [0.85°,1.15°],
  |H(m)| small) under which the residual is below 0.06 s is monitored, not proved.
-/
namespace IPT.C01
open IPT IPT.AngleLemmas IPT.HoursLemmas IPT.ExtLatLemmas IPT.TimesLemmas

section generic
variable {α : Type} [Add α] [Sub α] [Mul α] [Div α] [Neg α] [OfScientific α] [Sc α]

/-- the regenerated tables equal the frozen snapshot IPT/Spec/Vsop.lean row by row, for every scalar
    type (a pin against silent edits of a coefficient; that the snapshot is Meeus' truncated VSOP87
    is part of the trusted base, cross-checked to 0.02° by the independent ephemeris) -/
theorem tables_are_meeus :
    (Gen.L0 : List (α × α × α)) = Spec.L0 ∧ (Gen.L1 : List (α × α × α)) = Spec.L1 ∧
    (Gen.L2 : List (α × α × α)) = Spec.L2 ∧ (Gen.L3 : List (α × α × α)) = Spec.L3 ∧
    (Gen.L4 : List (α × α × α)) = Spec.L4 ∧ (Gen.L5 : List (α × α × α)) = Spec.L5 ∧
    (Gen.B0 : List (α × α × α)) = Spec.B0 ∧ (Gen.B1 : List (α × α × α)) = Spec.B1 ∧
    (Gen.R0 : List (α × α × α)) = Spec.R0 ∧ (Gen.R1 : List (α × α × α)) = Spec.R1 ∧
    (Gen.R2 : List (α × α × α)) = Spec.R2 ∧ (Gen.R3 : List (α × α × α)) = Spec.R3 ∧
    (Gen.R4 : List (α × α × α)) = Spec.R4 ∧ (Gen.PE : List (α × α × α × α)) = Spec.PE ∧
    Gen.SIN_COEFFICIENT = Spec.SIN_COEFFICIENT :=
  ⟨rfl, rfl, rfl, rfl, rfl, rfl, rfl, rfl, rfl, rfl, rfl, rfl, rfl, rfl, rfl⟩

/-- the sidereal-time and epoch constants are the documented ones -/
theorem sidereal_constants :
    (Gen.SIDEREAL_RATE : α) = 360.985647 ∧ (Gen.J2000 : α) = 2451545.0 ∧ (Gen.GMST0 : α) = 280.46061837 ∧
    (Gen.GMST1 : α) = 360.98564736629 ∧ (Gen.GMST2 : α) = 0.000387933 ∧ (Gen.GMST3 : α) = 38710000.0 ∧
    (Gen.TWO_PI_DEG : α) = 360.0 ∧ (Gen.HRS_PER_DAY : α) = 24.0 := ⟨rfl, rfl, rfl, rfl, rfl, rfl, rfl, rfl⟩

/-- conventional Dhuhr is always computed -/
theorem dhuhr_always_some (p : Params α) (t : TopAstroDay α) (w : Weather α) : (getHours p t w).dhuhr.isSome = true := by
  simp [getHours]

/-- **Dhuhr is never invalid, under any of the 15 policies** — also when the policy replaces it
    (nearest good day / nearest latitude "all prayers"): every environment whose days report Dhuhr -/
theorem dhuhr_always_reported (p : Params α) (hours : Hours α) (env : Env α) (r : PHours α)
    (hd : hours.dhuhr.isSome = true) (henv : ∀ off, (env.hoursAt off).dhuhr.isSome = true)
    (hr : adjForExtLat p hours env = .ok r) : r.dhuhr.isSome = true := by
  obtain ⟨h1, hh1, hr⟩ := (adjForExtLat_ok_iff ..).mp hr
  rw [adjForInt_eq] at hr
  rw [← Except.ok.inj hr]
  show h1.dhuhr.isSome = true
  have hd' : hours.toPH.dhuhr.isSome = true := by simpa [Hours.toPH] using hd
  have keep : ∀ r', SameOthers r' hours.toPH → r'.dhuhr.isSome = true := fun r' ho => by rw [ho.2.1]; exact hd'
  refine applyPolicy_cases (Q := fun r => r.dhuhr.isSome = true) hh1 hd' (fun _ => keep _ (angleBased_write ..).1) ?_ ?_
    (fun _ => keep _ (adjSevHalf_write ..).1) (fun _ => keep _ (adjMinAlways_write ..).1)
    (fun _ => keep _ (adjMinInv_write ..).1)
  · -- nearest latitude: its own Dhuhr, flagged under "all prayers"
    intro l r' _ hr'
    obtain ⟨d, hd''⟩ := Option.isSome_iff_exists.mp hd'
    rw [adjNearLat_eq, hd''] at hr'
    split at hr' <;> rw [← Except.ok.inj hr'] <;> first | rfl | exact hd'
  · -- nearest good day: under "all prayers" the Dhuhr of the found day
    intro _
    cases hB : p.policy.isGoodDayAll
    · exact keep _ (adjNearGood_write p _ env hB).1
    · unfold adjNearGood
      split
      · exact hd'
      · rename_i a ha
        obtain ⟨_, _, i, _, hi⟩ := searchGood_some _ _ _ ha
        have : a.dhuhr.isSome = true := by rcases hi with e | e <;> rw [e] <;> exact henv _
        simpa [hB] using this

/-- **Dhuhr is reported by the public entry point, whatever the policy**: in every result of
    `prayerTimesDt` (all parameter sets, places, dates, weather) the Dhuhr entry is present - the
    instantiation of `dhuhr_always_reported` at the real environment, carried through the assembly
    of the result (`C07.prayerTimesDt_entries`) -/
theorem dhuhr_reported_api (p : Params α) (loc : Location α) (rd : Int) (w : Option (Weather α)) (d : DayTimes)
    (h : prayerTimesDt p loc rd w = .ok d) : d.dhuhr.isSome = true := by
  obtain ⟨hh, h1, _, _, hd, _⟩ := C07.prayerTimesDt_entries p loc rd w d h
  have := dhuhr_always_reported p _ _ hh (dhuhr_always_some p _ _)
    (fun off => by simp [envOf, getHours]) h1
  obtain ⟨x, hx⟩ := Option.isSome_iff_exists.mp this
  obtain ⟨hn, _⟩ | ⟨_, _, _, _, e⟩ := (optTime_ok_iff ..).mp hd
  · rw [hx] at hn; cases hn
  · rw [e]; rfl

end generic

/-- the local hour angle the code interpolates, before normalisation: apparent sidereal time at
    Greenwich advanced by 360.985647°/day, plus east longitude, minus the interpolated RA -/
noncomputable def g (sid ra lon d1 d2 m : ℝ) : ℝ := sid + 360985647 / 1000000 * m + lon - (ra + m * (d1 + d2 * m) / 2)

/-- get_hour_angle returns that angle reduced into (-180°, 180°] -/
theorem hourAngle_spec (sid ra lon d1 d2 m : ℝ) :
    -180 < hourAngle sid ra lon (d1, d2) m ∧ hourAngle sid ra lon (d1, d2) m ≤ 180 ∧
    ∃ k : ℤ, hourAngle sid ra lon (d1, d2) m = g sid ra lon d1 d2 m - 360 * k := by
  rw [hourAngle_eq]
  exact capAngleBetween180_spec _

/-- **the one-step correction**: with H the hour angle at fraction m (any whole number of turns j
    removed) and m′ = m − H/360 the corrected fraction (Dhuhr = 24·m′), the hour angle at m′ is
    H·κ, κ = (Δ₁/2 + Δ₂(m+m′)/2 − 0.985647)/360 — an exact identity of the model's quadratic RA and
    linear sidereal time -/
theorem residual_after_correction (sid ra lon d1 d2 m : ℝ) (j : ℤ) :
    let H := g sid ra lon d1 d2 m - 360 * j
    let m' := m - H / 360
    g sid ra lon d1 d2 m' - 360 * j = H * ((d1 / 2 + d2 * (m + m') / 2 - 985647 / 1000000) / 360) := by
  simp only [g]; ring

/-- **Dhuhr is the corrected transit**: Dhuhr/24 is the day fraction m′ = m − H/360 with
    m = frac((α − L − θ₀)/360) the mean transit fraction and H the hour angle at m; the model's hour
    angle at that fraction is H·κ modulo whole turns -/
theorem dhuhr_residual (t : TopAstroDay ℝ) (w : Weather ℝ) :
    let d := raInterpDeltas t.prev.ra t.cur.ra t.next.ra
    let m := capAngle1 ((t.cur.ra - t.coords.lon - t.cur.sid) / 360)
    let H := hourAngle t.cur.sid t.cur.ra t.coords.lon d m
    let m' := (shurDhuhrMagh t w).2.1 / 24
    m' = m - H / 360 ∧
    ∃ j : ℤ, g t.cur.sid t.cur.ra t.coords.lon d.1 d.2 m' - 360 * j =
      H * ((d.1 / 2 + d.2 * (m + m') / 2 - 985647 / 1000000) / 360) := by
  intro d m H m'
  have hm' : m' = m - H / 360 := by
    simp only [m', shurDhuhrMagh, c_TWO_PI_DEG, c_HRS_PER_DAY]
    ring
  obtain ⟨_, _, k, hk⟩ := hourAngle_spec t.cur.sid t.cur.ra t.coords.lon d.1 d.2 m
  refine ⟨hm', k, ?_⟩
  rw [hm', show H = _ from hk]
  exact residual_after_correction t.cur.sid t.cur.ra t.coords.lon d.1 d.2 m k

/-- so under the envelope (daily RA motion within [0.85°, 1.15°]·2, small second difference,
    |H| ≤ 0.5°) the residual hour angle is below 1/3800° ≈ 2.6·10⁻⁴° = 0.063 s of time -/
theorem residual_bound (H d1 d2 mm : ℝ) (hH : |H| ≤ 1 / 2) (h1 : 17 / 10 ≤ d1) (h1' : d1 ≤ 23 / 10)
    (h2 : |d2 * mm / 2| ≤ 1 / 50) :
    |H * ((d1 / 2 + d2 * mm / 2 - 985647 / 1000000) / 360)| ≤ 1 / 3800 := by
  have hk : |(d1 / 2 + d2 * mm / 2 - 985647 / 1000000) / 360| ≤ 1 / 1900 := by
    rw [abs_le] at h2 ⊢
    constructor
    · linear_combination (1 / 720) * h1 + (1 / 360) * h2.1
    · linear_combination (1 / 720) * h1' + (1 / 360) * h2.2
  rw [abs_mul]
  exact (mul_le_mul hH hk (abs_nonneg _) (by norm_num)).trans_eq (by norm_num)

/-- **Dhuhr's hour angle under the envelope**, end to end on the model: for a day whose interpolation
    deltas and first hour angle lie in the envelope (two-day RA motion in [1.7°, 2.3°], second difference
    at most 0.019°, hour angle at the mean transit at most 0.5° - the falsifier evaluates exactly these
    on the implementation's ephemeris for every case), the model's hour angle at the reported Dhuhr
    is, modulo whole turns, at most 1/3800° = 0.063 s of time -/
theorem dhuhr_hour_angle_small (t : TopAstroDay ℝ) (w : Weather ℝ)
    (hH : |hourAngle t.cur.sid t.cur.ra t.coords.lon (raInterpDeltas t.prev.ra t.cur.ra t.next.ra)
            (capAngle1 ((t.cur.ra - t.coords.lon - t.cur.sid) / 360))| ≤ 1 / 2)
    (h1 : 17 / 10 ≤ (raInterpDeltas t.prev.ra t.cur.ra t.next.ra).1)
    (h1' : (raInterpDeltas t.prev.ra t.cur.ra t.next.ra).1 ≤ 23 / 10)
    (h2 : |(raInterpDeltas t.prev.ra t.cur.ra t.next.ra).2| ≤ 19 / 1000) :
    ∃ j : ℤ, |g t.cur.sid t.cur.ra t.coords.lon (raInterpDeltas t.prev.ra t.cur.ra t.next.ra).1
        (raInterpDeltas t.prev.ra t.cur.ra t.next.ra).2 ((shurDhuhrMagh t w).2.1 / 24) - 360 * j| ≤ 1 / 3800 := by
  -- |Δ₂·(m + m′)/2| ≤ 0.019·1.001 since m ∈ [0, 1) and m′ = m − H/360 is within 1/720 of it
  have key : ∀ d2 m H : ℝ, |d2| ≤ 19 / 1000 → 0 ≤ m → m < 1 → |H| ≤ 1 / 2 →
      |d2 * (m + (m - H / 360)) / 2| ≤ 1 / 50 := by
    intro d2 m H h2 m0 m1 hH
    have hH := abs_le.mp hH
    have : |(m + (m - H / 360)) / 2| ≤ 1001 / 1000 :=
      abs_le.mpr ⟨by linear_combination m0 + (1 / 720) * hH.2, by linear_combination m1 + (1 / 720) * hH.1⟩
    rw [mul_div_assoc, abs_mul]
    exact (mul_le_mul h2 this (abs_nonneg _) (by norm_num)).trans (by norm_num)
  obtain ⟨hm', j, hj⟩ := dhuhr_residual t w
  obtain ⟨m0, m1, -⟩ := capAngle1_spec ((t.cur.ra - t.coords.lon - t.cur.sid) / 360)
  refine ⟨j, ?_⟩
  rw [hj, hm']
  exact residual_bound _ _ _ _ hH h1 h1' (key _ _ _ h2 m0 m1 hH)

/-- **right-ascension wrap** (proved in Thm/C13 `ra_wrap_lift`; restated here because C01 depends on it):
    the interpolation deltas are those of the unwrapped sequence -/
theorem ra_wrap_lift (P C N : ℝ) (hC0 : 0 ≤ C) (hC1 : C < 360)
    (hp0 : 0 < C - P) (hp1 : C - P < 10) (hn0 : 0 < N - C) (hn1 : N - C < 10) :
    raInterpDeltas (if P < 0 then P + 360 else P) C (if 360 ≤ N then N - 360 else N) = (N - P, N + P - 2 * C) :=
  C13.ra_wrap_lift P C N hC0 hC1 hp0 hp1 hn0 hn1

-- non-vacuity: the day after the equinox wrap (359.5°, 0.5°, 1.5°) meets the hypotheses with P = −0.5
example : (0 : ℝ) ≤ 0.5 ∧ (0.5 : ℝ) < 360 ∧ (0 : ℝ) < 0.5 - (-0.5) ∧ (0.5 : ℝ) - (-0.5) < 10 := by norm_num

end IPT.C01
