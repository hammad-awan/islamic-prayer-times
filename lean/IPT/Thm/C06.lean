import IPT.Lemmas.Hours
import IPT.Lemmas.ExtLat
/-
  C06 — a time is reported Invalid exactly when the solar event does not occur.
  Over ℝ, on the model's declination of the date: each of the three guards (`within_abs_1`
  before `acos` for twilight, rise/set and Asr) holds iff some hour angle puts the Sun at the
  defining altitude, iff the defining altitude lies between the day's lowest and highest altitude
  -cos(φ+δ) ≤ sin(target) ≤ cos(φ-δ).  Plus, for every scalar type: policy None with no intervals
  reports exactly the validity pattern of the six computed hours.
-/
namespace IPT.C06
open IPT IPT.TrigLemmas IPT.HoursLemmas IPT.ExtLatLemmas Real

/-- guard ⇔ reachability ⇔ target between the extreme altitudes of the day -/
theorem guard_iff (φ δ T : ℝ) (hk : 0 < Real.cos φ * Real.cos δ) :
    withinAbs1 ((T - Real.sin φ * Real.sin δ) / (Real.cos φ * Real.cos δ)) = true ↔
      ∃ H : ℝ, Real.sin φ * Real.sin δ + Real.cos φ * Real.cos δ * Real.cos H = T := by
  rw [withinAbs1_real]; exact reachable_iff _ _ _ hk.ne'

theorem guard_iff_between (φ δ T : ℝ) (hk : 0 < Real.cos φ * Real.cos δ) :
    withinAbs1 ((T - Real.sin φ * Real.sin δ) / (Real.cos φ * Real.cos δ)) = true ↔
      -Real.cos (φ + δ) ≤ T ∧ T ≤ Real.cos (φ - δ) := by
  rw [withinAbs1_real, le_div_iff₀ hk, div_le_iff₀ hk, Real.cos_add, Real.cos_sub, neg_one_mul, one_mul,
    sub_le_iff_le_add, le_sub_iff_add_le, neg_sub, sub_eq_neg_add]

/-- **Fajr/Isha are valid iff the Sun reaches the depression angle that day** -/
theorem twilight_valid_iff (angF angI lat dec dhuhr : ℝ)
    (hk : 0 < Real.cos (toRadians lat) * Real.cos (toRadians dec)) :
    ((fajrIsha angF angI lat dec dhuhr).1.isSome = true ↔
      ∃ H : ℝ, Real.sin (toRadians lat) * Real.sin (toRadians dec) +
        Real.cos (toRadians lat) * Real.cos (toRadians dec) * Real.cos H = Real.sin (toRadians (-angF))) ∧
    ((fajrIsha angF angI lat dec dhuhr).2.isSome = true ↔
      ∃ H : ℝ, Real.sin (toRadians lat) * Real.sin (toRadians dec) +
        Real.cos (toRadians lat) * Real.cos (toRadians dec) * Real.cos H = Real.sin (toRadians (-angI))) :=
  ⟨Option.isSome_ite.trans (guard_iff _ _ _ hk), Option.isSome_ite.trans (guard_iff _ _ _ hk)⟩

/-- …iff the depression angle lies between the day's extreme altitudes -/
theorem fajr_valid_iff_between (angF angI lat dec dhuhr : ℝ)
    (hk : 0 < Real.cos (toRadians lat) * Real.cos (toRadians dec)) :
    (fajrIsha angF angI lat dec dhuhr).1.isSome = true ↔
      -Real.cos (toRadians lat + toRadians dec) ≤ Real.sin (toRadians (-angF)) ∧
        Real.sin (toRadians (-angF)) ≤ Real.cos (toRadians lat - toRadians dec) :=
  Option.isSome_ite.trans (guard_iff_between _ _ _ hk)

/-- **Shurooq/Maghrib are valid iff the Sun's centre reaches h₀ = −0.83337° that day**
    (no time in polar day or polar night, a time otherwise) -/
theorem riseset_valid_iff (lat dec : ℝ)
    (hk : 0 < Real.cos (toRadians lat) * Real.cos (toRadians dec)) :
    (shurMaghM0Adj lat dec).isSome = true ↔
      ∃ H : ℝ, Real.sin (toRadians lat) * Real.sin (toRadians dec) +
        Real.cos (toRadians lat) * Real.cos (toRadians dec) * Real.cos H =
          Real.sin (toRadians (Gen.CENTER_OF_SUN_ANGLE : ℝ)) :=
  Option.isSome_ite.trans (guard_iff _ _ _ hk)

/-- **Asr is valid iff the Sun reaches the shadow-rule altitude that day** -/
theorem asr_valid_iff (ratio : AsrRatio) (lat dec dhuhr : ℝ)
    (hk : 0 < Real.cos (toRadians lat) * Real.cos (toRadians dec)) :
    (getAsr ratio lat dec dhuhr).isSome = true ↔
      ∃ H : ℝ, Real.sin (toRadians lat) * Real.sin (toRadians dec) +
        Real.cos (toRadians lat) * Real.cos (toRadians dec) * Real.cos H =
          Real.sin (Real.arctan (1 / (asrRatio ratio + Real.tan |toRadians lat - toRadians dec|))) := by
  rw [← guard_iff _ _ _ hk, ← asrCos_real]
  exact Option.isSome_ite

/-- the boundary cases recorded by the design: the guard is inclusive, so r = ±1 (the Sun just grazing the
    altitude, at midnight resp. at noon) counts as valid — inside the property's 0.05° exemption band.
    At r = −1 Fajr and Isha lie 180° from Dhuhr, while `cap_angle_180` turns the rise/set arc of 180° into 0°. -/
theorem edge_is_valid : withinAbs1 (-1 : ℝ) = true ∧ withinAbs1 (1 : ℝ) = true := by
  constructor <;> rw [withinAbs1_real] <;> norm_num

variable {α : Type} [Add α] [Sub α] [Mul α] [Div α] [Neg α] [OfScientific α] [Sc α]

/-- **with no extreme-latitude policy (and no intervals) an Err is propagated unchanged and
    nothing is fabricated**: the result is the six computed hours, unflagged — every scalar type -/
theorem none_policy_keeps_validity (p : Params α) (hours : Hours α) (env : Env α)
    (hp : p.policy = .None) (hF : nonZero p.intFajr = false) (hI : nonZero p.intIsha = false) :
    adjForExtLat p hours env = .ok hours.toPH := by
  simp [adjForExtLat, applyPolicy, canAdj, hp, Policy.isNone, adjForInt, Gen.intExcluded, intFajrStep,
    intIshaStep, hF, hI]

/-- **the theorems above are about the entries `getHours` reports**: its Fajr, Isha and Asr are the
    stand-alone functions applied to the configured Fajr/Isha angles and school, the place's
    latitude, the requested date's declination and that day's Dhuhr, and its Shurooq and Maghrib
    exist exactly when the rise/set hour angle does - a swapped argument at the call site would
    break this theorem -/
theorem getHours_wiring (p : Params α) (t : TopAstroDay α) (w : Weather α) :
    (getHours p t w).fajr = (fajrIsha p.angFajr p.angIsha t.coords.lat t.cur.dec (shurDhuhrMagh t w).2.1).1 ∧
    (getHours p t w).isha = (fajrIsha p.angFajr p.angIsha t.coords.lat t.cur.dec (shurDhuhrMagh t w).2.1).2 ∧
    (getHours p t w).asr = getAsr p.asr t.coords.lat t.cur.dec (shurDhuhrMagh t w).2.1 ∧
    (getHours p t w).dhuhr = some (shurDhuhrMagh t w).2.1 ∧
    (getHours p t w).shur.isSome = (shurMaghM0Adj t.coords.lat t.cur.dec).isSome ∧
    (getHours p t w).magh.isSome = (shurMaghM0Adj t.coords.lat t.cur.dec).isSome := by
  refine ⟨rfl, rfl, rfl, rfl, ?_, ?_⟩ <;> simp only [getHours, shurDhuhrMagh] <;>
    cases shurMaghM0Adj t.coords.lat t.cur.dec <;> rfl

-- non-vacuity: a genuine polar-night day (latitude 80°, declination −20°): cos φ cos δ > 0 and the
-- rise/set hour angle does not exist (the Sun never reaches h₀), so Shurooq and Maghrib are Invalid
example : 0 < Real.cos (toRadians (80:ℝ)) * Real.cos (toRadians (-20:ℝ)) ∧ shurMaghM0Adj (80:ℝ) (-20) = none := by
  have hk : 0 < Real.cos (toRadians (80:ℝ)) * Real.cos (toRadians (-20:ℝ)) :=
    mul_pos (cos_toRadians_pos (by norm_num) (by norm_num)) (cos_toRadians_pos (by norm_num) (by norm_num))
  refine ⟨hk, Option.not_isSome_iff_eq_none.mp fun h => ?_⟩
  -- the highest altitude of the day is 90° − |80° + 20°| = −10° < h₀: cos 100° = −sin 10° < −sin 0.83337°
  have := ((Option.isSome_ite.trans (guard_iff_between _ _ _ hk)).mp h).2
  have e : toRadians (80:ℝ) - toRadians (-20:ℝ) = toRadians 10 + Real.pi / 2 := by
    simp only [toRadians_real]; ring
  rw [c_CENTER_OF_SUN_ANGLE, toRadians_neg, sc_sin, Real.sin_neg, e, Real.cos_add_pi_div_two, neg_le_neg_iff] at this
  exact this.not_gt (sin_toRadians_lt (by norm_num) (by norm_num) (by norm_num))

end IPT.C06
