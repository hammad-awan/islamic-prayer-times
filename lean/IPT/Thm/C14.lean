import IPT.Model.Range
import IPT.Model.Times
import IPT.Model.Rng
import IPT.Lemmas.Civil
/-
  C14 — range results are the per-day results for exactly the days in the range.
  Model: IPT/Model/Range.lean (dates are day numbers; chrono's date arithmetic is validated by the
  `civil` correspondence unit).  `Gen.numDaysClamp` is re-read from date.rs on every run.
-/
namespace IPT.C14
open IPT

/-- the reported number of days is max(0, end - start + 1).  False of the code as first found
    (`(d + 1) as usize` wraps for end < start - 1): then `Gen.numDaysClamp` is `false` and this
    theorem does not check. -/
theorem numDays_spec (s e : Int) : numDays s e = (e - s + 1).toNat := by
  simp [numDays, Gen.numDaysClamp]

theorem numDays_empty (s e : Int) (h : e < s) : numDays s e = 0 := by
  rw [numDays_spec]; omega

/-- the dates visited by the sequential range API are exactly start..=end, in order, once each -/
theorem rangeDates_mem (s e d : Int) : d ∈ rangeDates s e ↔ s ≤ d ∧ d ≤ e := by
  simp only [rangeDates, List.mem_map, List.mem_range, numDays_spec]
  constructor
  · rintro ⟨i, hi, rfl⟩; omega
  · rintro ⟨h1, h2⟩
    exact ⟨(d - s).toNat, by omega, by omega⟩

theorem rangeDates_length (s e : Int) : (rangeDates s e).length = (e - s + 1).toNat := by
  simp [rangeDates, numDays_spec]

theorem rangeDates_get (s e : Int) (i : Nat) (h : i < (rangeDates s e).length) :
    (rangeDates s e)[i] = s + i := by
  simp [rangeDates]

theorem rangeDates_empty (s e : Int) (h : e < s) : rangeDates s e = [] := by
  simp [rangeDates, numDays_empty s e h]

/-- `l` is a list of non-empty, contiguous, non-overlapping sub-ranges whose union is s..=e -/
def CoversFrom (e : Int) : Int → List (Int × Int) → Prop
  | s, [] => s = e + 1
  | s, (a, b) :: rest => a = s ∧ a ≤ b ∧ b ≤ e ∧ CoversFrom e (b + 1) rest

theorem partLoop_of_gt {e s : Int} (h : e < s) (block : Int) : ∀ fuel, partLoop e block fuel s = []
  | 0 => rfl
  | _ + 1 => if_neg (Int.not_le.mpr h)

theorem partLoop_covers (e block : Int) (hb : 1 ≤ block) :
    ∀ (fuel : Nat) (s : Int), s ≤ e + 1 → e + 1 - s < fuel → CoversFrom e s (partLoop e block fuel s) := by
  intro fuel
  induction fuel with
  | zero => intro s _ h2; omega
  | succ n ih =>
    intro s h1 h2
    by_cases hs : s ≤ e
    · simp only [partLoop, if_pos hs]
      split
      · rw [partLoop_of_gt (by omega)]
        exact ⟨rfl, hs, Int.le_refl _, rfl⟩
      · refine ⟨rfl, by omega, by omega, ?_⟩
        rw [show s + (block - 1) + 1 = s + block by omega]
        exact ih _ (by omega) (by omega)
    · rw [partLoop_of_gt (by omega)]
      exact show s = e + 1 by omega

/-- splitting a non-empty range into k parts yields non-empty, contiguous, non-overlapping
    sub-ranges whose union is exactly the range -/
theorem partition_cover (s e : Int) (k : Nat) (h : s ≤ e) : CoversFrom e s (partition s e k) := by
  unfold partition
  split
  · exact ⟨rfl, h, Int.le_refl _, rfl⟩
  · have := numDays_spec s e
    refine partLoop_covers e _ ?_ _ s (by omega) (by omega)
    have : 0 < (numDays s e + k - 1) / k := Nat.div_pos (by omega) (by omega)
    simp only [blockSize]; omega

theorem partLoop_length_le (e block : Int) :
    ∀ (fuel k : Nat) (s : Int), e + 1 - s ≤ k * block → (partLoop e block fuel s).length ≤ k := by
  intro fuel
  induction fuel with
  | zero => intro k s _; exact Nat.zero_le k
  | succ n ih =>
    intro k s h
    by_cases hs : s ≤ e
    · simp only [partLoop, if_pos hs, List.length_cons]
      -- the stretch is not empty, so k ≥ 1; the first block leaves at most k - 1 block lengths
      cases k with
      | zero => omega
      | succ k =>
        refine Nat.succ_le_succ (ih k _ ?_)
        rw [Int.natCast_succ, Int.add_mul] at h; omega
    · rw [partLoop_of_gt (by omega)]; exact Nat.zero_le k

/-- at most max(k,1) parts -/
theorem partition_count (s e : Int) (k : Nat) : (partition s e k).length ≤ max k 1 := by
  unfold partition
  split
  · exact Nat.le_max_right ..
  · refine Nat.le_trans (partLoop_length_le _ _ _ k s ?_) (Nat.le_max_left ..)
    -- the block length is ⌈days / k⌉, and k of those cover `days`
    have := Nat.div_add_mod (numDays s e + k - 1) k
    have := Nat.mod_lt (numDays s e + k - 1) (show 0 < k by omega)
    have := numDays_spec s e
    simp only [blockSize]
    omega

/-- an empty range split into k ≥ 2 parts yields no sub-range; for k < 2 the code returns the
    (empty) range itself (DESIGN §9.3) -/
theorem partition_empty (s e : Int) (k : Nat) (h : e < s) (hk : 2 ≤ k) : partition s e k = [] := by
  rw [partition, if_neg (by omega)]
  exact partLoop_of_gt h _ _

-- the range model lives in Model/Rng.lean (`IPT.rngModel`: the object unit `rng` compares with the
-- real `prayer_times_dt_rng`); `C14.rngModel` is the same constant
export IPT (rngModel)

/-- **the range model has one entry per calendar date from start to end inclusive - none when the end
    precedes the start - each the single-date result for that date.**  `rngModel` (above) mirrors the
    body of `prayer_times_dt_rng`: a loop over `start.iter_days().take(num_days)` inserting
    `prayer_times_dt(params, location, date, None)`; clause 2 is therefore true of the model by
    construction, and that the REAL function is that loop with nothing carried from one day to the
    next is what the falsifier's range sweeps compare (seeds C15c, C14d, C14e were such carry-overs).
    What the theorem adds is the date set: exactly start..=end, once each, nothing for an empty range. -/
theorem rng_is_per_day {α : Type} [Add α] [Sub α] [Mul α] [Div α] [Neg α] [OfScientific α] [Sc α]
    (p : Params α) (loc : Location α) (s e : Int) :
    ((rngModel p loc s e).map Prod.fst = rangeDates s e) ∧
    (∀ x ∈ rngModel p loc s e, x.2 = prayerTimesDt p loc x.1 none) ∧
    (e < s → rngModel p loc s e = []) ∧
    (∀ d, (∃ x ∈ rngModel p loc s e, x.1 = d) ↔ s ≤ d ∧ d ≤ e) := by
  have keys : (rngModel p loc s e).map Prod.fst = rangeDates s e := List.map_map.trans (List.map_id _)
  refine ⟨keys, fun x hx => ?_, fun h => by rw [rngModel, rangeDates_empty s e h]; rfl, fun d => ?_⟩
  · obtain ⟨rd, _, rfl⟩ := List.mem_map.mp hx; rfl
  · rw [← rangeDates_mem, ← keys, List.mem_map]

/-- chrono's contract for `NaiveDate`: the calendar date of a day number has that day number … -/
theorem civil_toRD_fromRD (n : Int) : toRD (fromRD n) = n := (CivilLemmas.fromRD_valid n).2.2.2.2.1

/-- … and every calendar date is the date of its day number: dates and day numbers are in bijection -/
theorem civil_fromRD_toRD (dt : Date) (h : CivilLemmas.ValidDate dt) : fromRD (toRD dt) = dt :=
  CivilLemmas.fromRD_toRD dt h

/-- the dates of a range are visited in strictly increasing order: every date exactly once -/
theorem rangeDates_sorted (s e : Int) : (rangeDates s e).Pairwise (· < ·) := by
  unfold rangeDates
  rw [List.pairwise_map]
  exact List.Pairwise.imp (fun h => by omega) List.pairwise_lt_range

/-- and they are pairwise distinct calendar dates (year, month, day) -/
theorem range_calendar_dates_distinct (s e : Int) : ((rangeDates s e).map fromRD).Pairwise (· ≠ ·) := by
  rw [List.pairwise_map]
  refine List.Pairwise.imp ?_ (rangeDates_sorted s e)
  intro a b hab heq
  have := congrArg toRD heq
  rw [civil_toRD_fromRD, civil_toRD_fromRD] at this
  omega

-- non-vacuity: a concrete range meets the hypotheses and the conclusion is the expected split
example : partition 738521 738530 4 = [(738521, 738523), (738524, 738526), (738527, 738529), (738530, 738530)] := by
  decide
example : CoversFrom 738530 738521 (partition 738521 738530 4) := partition_cover _ _ _ (by decide)

end IPT.C14
