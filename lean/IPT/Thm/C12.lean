import IPT.Thm.C11
import IPT.Lemmas.ExtLat
import IPT.Lemmas.Times
/-
  C12 — each parameter affects only the times it is documented to affect.
  Non-interference statements hold for EVERY scalar type (they are about which fields a function
  reads); the exact shift by k minutes is over ℝ (Thm C11's clock of the unrounded time).
-/
namespace IPT.C12
open IPT IPT.ExtLatLemmas IPT.TimesLemmas
variable {α : Type} [Add α] [Sub α] [Mul α] [Div α] [Neg α] [OfScientific α] [Sc α]

/-- replace the seven minute offsets -/
def withMinutes (p : Params α) (m : Prayer → α) : Params α :=
  { p with minImsaak := m .Imsaak, minFajr := m .Fajr, minShurooq := m .Shurooq, minDhuhr := m .Dhuhr,
           minAsr := m .Asr, minMaghrib := m .Maghrib, minIsha := m .Isha }

/-- the six hours, the policy layer and the interval pass never read a minute offset -/
theorem hours_ignore_offsets (p : Params α) (m : Prayer → α) (t : TopAstroDay α) (w : Weather α) :
    getHoursAdjExt (withMinutes p m) t w = getHoursAdjExt p t w := rfl

/-- **a minute offset for a prayer reaches exactly that prayer's conversion**: converting the
    hour of prayer `pr` reads only `minutes[pr]` (and the rounding mode) -/
theorem offset_only_that_prayer (p q : Params α) (pr : Prayer) (x : α)
    (hr : p.round = q.round) (hm : p.minutes pr = q.minutes pr) :
    hourToTime p pr x = hourToTime q pr x := by
  unfold hourToTime convertHour
  rw [hm, hr]

/-- so changing the offset of another prayer leaves this prayer's time unchanged -/
theorem other_offset_irrelevant (p : Params α) (m : Prayer → α) (pr : Prayer) (ph : PH α)
    (hm : m pr = p.minutes pr) :
    toPrayerTime (withMinutes p m) pr ph = toPrayerTime p pr ph := by
  unfold toPrayerTime
  rw [offset_only_that_prayer (withMinutes p m) p pr ph.value rfl (by cases pr <;> simpa [withMinutes, Params.minutes] using hm)]

/-- **Imsaak follows Fajr's offset**: the Imsaak conversion is a Fajr conversion under parameters
    whose Fajr offset is the caller's (minus the Imsaak interval, if one is set) and whose other
    offsets, angles and policy are the caller's -/
theorem imsaak_follows_fajr_offset (p : Params α) :
    ((imsaakParams1 p).minFajr = p.minFajr ∨ (imsaakParams1 p).minFajr = p.minFajr - p.intImsaak) ∧
    (imsaakParams1 p).round = p.round ∧ (imsaakParams1 p).policy = p.policy := by
  unfold imsaakParams1
  split <;> [skip; split] <;> simp

/-- **an Imsaak interval (no Fajr interval)**: Imsaak is computed as a Fajr with the SAME hours
    (`hours_ignore_offsets`) and Fajr's minute offset reduced by the interval - a statement about the
    parameter set `get_imsaak` runs with; that a minute offset moves the clock time by that many
    minutes is `offset_moves_clock` (whole minutes) -/
theorem imsaak_interval (p : Params α) (hF : nonZero p.intFajr = false) (hI : nonZero p.intImsaak = true) :
    imsaakParams1 p = { p with minFajr := p.minFajr - p.intImsaak } := by
  simp [imsaakParams1, hF, hI]

/-- **an Imsaak interval together with a Fajr interval**: Imsaak is computed as a Fajr defined by
    the interval `FajrInterval + ImsaakInterval` before Shurooq (`isha_fajr_interval`: an interval
    Fajr is Shurooq minus its interval), i.e. the Imsaak interval before the interval Fajr - both
    in minutes, one sum, nothing else changed (the unit slip of seed C12h breaks the correspondence
    that ties this text to the code) -/
theorem imsaak_interval_with_fajr_interval (p : Params α) (hF : nonZero p.intFajr = true)
    (hI : Sc.eqb p.intImsaak 0.0 = false) :
    imsaakParams1 p = { p with intFajr := p.intFajr + p.intImsaak } := by
  simp [imsaakParams1, hF, hI]

/-- **when Fajr is extreme** the parameter set Imsaak is recomputed with is the caller's with Fajr's
    offset reduced by the Imsaak interval, or by 1.5 minutes if none is set (parameter-level
    statement; `imsaak_extreme_branch` says that this set is the one used, `imsaak_extreme_is_flagged`
    that the result carries the flag) -/
theorem imsaak_when_fajr_extreme (p : Params α) (hI : Sc.eqb p.intImsaak 0.0 = true) :
    imsaakParams2 p = { p with minFajr := p.minFajr - Gen.DEF_IMSAAK_ANGLE } ∧
    (Gen.DEF_IMSAAK_ANGLE : α) = 1.5 := by
  simp [imsaakParams2, hI]; rfl

/-- **when the reported Fajr is extreme, Imsaak is that Fajr with its offset reduced** (and carries
    its flag): the fallback branch is taken whenever the Fajr of the caller's own parameters is
    extreme — also when the Fajr of the angle-adjusted parameters is not (the defect repaired by
    the last `fix:` commit: nearest-latitude policies with an unreachable Imsaak angle) -/
theorem imsaak_extreme_branch (p : Params α) (run : Params α → Except Panic (PHours α)) (h1 h0 h2 : PHours α)
    (hr1 : run (imsaakParams1 p) = .ok h1) (hr0 : run p = .ok h0) (he : fajrExtreme h0 = true)
    (hr2 : run (imsaakParams2 p) = .ok h2) :
    imsaakOf p run = flagExtreme (optTime (imsaakParams2 p) .Fajr h2.fajr) := by
  cases h : fajrExtreme h1 <;> simp [imsaakOf, hr1, hr0, he, hr2, h]

/-- **"when Fajr is extreme Imsaak is 1.5 minutes before it and extreme too"**: whatever the Fajr
    computed with the reduced offset looks like, the Imsaak the fallback reports carries the flag -/
theorem imsaak_extreme_is_flagged (p : Params α) (run : Params α → Except Panic (PHours α)) (h1 h0 h2 : PHours α)
    (hr1 : run (imsaakParams1 p) = .ok h1) (hr0 : run p = .ok h0) (he : fajrExtreme h0 = true)
    (hr2 : run (imsaakParams2 p) = .ok h2) (t : PT) (ht : imsaakOf p run = .ok (some t)) :
    t.extreme = true := by
  rw [imsaak_extreme_branch p run h1 h0 h2 hr1 hr0 he hr2] at ht
  obtain ⟨_ | t0, _, ht⟩ := (flagExtreme_ok_iff ..).mp ht
  · cases ht
  · rw [Option.some.inj ht]

/-- **an Isha interval makes Isha = Maghrib + interval and a Fajr interval Fajr = Shurooq − interval**
    (whatever the policy did before, unless the policy is one of the three the interval pass skips) -/
theorem isha_fajr_interval (p : Params α) (hours : Hours α) (env : Env α) (h1 r : PHours α)
    (hE : ¬ Gen.intExcluded p.policy = true)
    (hap : applyPolicy p hours.toPH env = .ok h1) (hr : adjForExtLat p hours env = .ok r) :
    (nonZero p.intIsha = true →
      r.isha = h1.magh.map fun (x : PH α) => ⟨x.value + p.intIsha / Gen.MIN_SEC_PER_HR_MIN, flagOf h1.isha⟩) ∧
    (nonZero p.intFajr = true →
      r.fajr = h1.shur.map fun (x : PH α) => ⟨x.value - p.intFajr / Gen.MIN_SEC_PER_HR_MIN, flagOf h1.fajr⟩) := by
  rw [adjForExtLat_of_policy hap, adjForInt_eq] at hr
  rw [← Except.ok.inj hr]
  constructor <;> intro hz <;> simp [intPass, intOut, hE, hz]

/-- **changing the Asr school changes only Asr** - among the six computed hours of `getHours`;
    `asr_school_only_asr_reported` carries it to the reported hours under policy None -/
theorem asr_school_only_asr (p : Params α) (a : AsrRatio) (t : TopAstroDay α) (w : Weather α) :
    let h := getHours p t w
    let h' := getHours { p with asr := a } t w
    h'.fajr = h.fajr ∧ h'.shur = h.shur ∧ h'.dhuhr = h.dhuhr ∧ h'.magh = h.magh ∧ h'.isha = h.isha :=
  ⟨rfl, rfl, rfl, rfl, rfl⟩

/-- **the Fajr angle changes only Fajr (and Imsaak, which is a Fajr)** - among the six computed hours
    of `getHours`; `fajr_angle_only_fajr_reported` carries it to the reported hours under policy
    None.  Under a replacing policy the claim does not lift: which entries a policy rewrites
    depends on which hours exist (DESIGN 14.3.13 is the reading the falsifier uses there). -/
theorem fajr_angle_only_fajr (p : Params α) (x : α) (t : TopAstroDay α) (w : Weather α) :
    let h := getHours p t w
    let h' := getHours { p with angFajr := x } t w
    h'.shur = h.shur ∧ h'.dhuhr = h.dhuhr ∧ h'.asr = h.asr ∧ h'.magh = h.magh ∧ h'.isha = h.isha :=
  ⟨rfl, rfl, rfl, rfl, rfl⟩

/-- **the Isha angle changes only Isha** - among the six computed hours of `getHours`;
    `isha_angle_only_isha_reported` carries it to the reported hours under policy None -/
theorem isha_angle_only_isha (p : Params α) (x : α) (t : TopAstroDay α) (w : Weather α) :
    let h := getHours p t w
    let h' := getHours { p with angIsha := x } t w
    h'.fajr = h.fajr ∧ h'.shur = h.shur ∧ h'.dhuhr = h.dhuhr ∧ h'.asr = h.asr ∧ h'.magh = h.magh :=
  ⟨rfl, rfl, rfl, rfl, rfl⟩


/-- under policy None the reported hours are the computed ones after the interval pass -/
theorem none_policy_eq (p : Params α) (t : TopAstroDay α) (w : Weather α) (hp : p.policy = .None) :
    getHoursAdjExt p t w = adjForInt p (getHours p t w).toPH :=
  adjForExtLat_none _ _ _ hp

/-- **reported hours, policy None: the Fajr angle changes only Fajr** (intervals allowed: an
    interval-defined Isha is Maghrib + interval and does not read the Fajr angle either) -/
theorem fajr_angle_only_fajr_reported (p : Params α) (x : α) (t : TopAstroDay α) (w : Weather α) (r r' : PHours α)
    (hp : p.policy = .None) (hr : getHoursAdjExt p t w = .ok r)
    (hr' : getHoursAdjExt { p with angFajr := x } t w = .ok r') :
    r'.shur = r.shur ∧ r'.dhuhr = r.dhuhr ∧ r'.asr = r.asr ∧ r'.magh = r.magh ∧ r'.isha = r.isha := by
  rw [none_policy_eq _ t w hp, adjForInt_eq] at hr
  rw [none_policy_eq { p with angFajr := x } t w hp, adjForInt_eq] at hr'
  rw [← Except.ok.inj hr, ← Except.ok.inj hr']
  exact ⟨rfl, rfl, rfl, rfl, rfl⟩

/-- **reported hours, policy None: the Isha angle changes only Isha** -/
theorem isha_angle_only_isha_reported (p : Params α) (x : α) (t : TopAstroDay α) (w : Weather α) (r r' : PHours α)
    (hp : p.policy = .None) (hr : getHoursAdjExt p t w = .ok r)
    (hr' : getHoursAdjExt { p with angIsha := x } t w = .ok r') :
    r'.fajr = r.fajr ∧ r'.shur = r.shur ∧ r'.dhuhr = r.dhuhr ∧ r'.asr = r.asr ∧ r'.magh = r.magh := by
  rw [none_policy_eq _ t w hp, adjForInt_eq] at hr
  rw [none_policy_eq { p with angIsha := x } t w hp, adjForInt_eq] at hr'
  rw [← Except.ok.inj hr, ← Except.ok.inj hr']
  exact ⟨rfl, rfl, rfl, rfl, rfl⟩

/-- **reported hours, policy None: the Asr school changes only Asr** -/
theorem asr_school_only_asr_reported (p : Params α) (a : AsrRatio) (t : TopAstroDay α) (w : Weather α) (r r' : PHours α)
    (hp : p.policy = .None) (hr : getHoursAdjExt p t w = .ok r)
    (hr' : getHoursAdjExt { p with asr := a } t w = .ok r') :
    r'.fajr = r.fajr ∧ r'.shur = r.shur ∧ r'.dhuhr = r.dhuhr ∧ r'.magh = r.magh ∧ r'.isha = r.isha := by
  rw [none_policy_eq _ t w hp, adjForInt_eq] at hr
  rw [none_policy_eq { p with asr := a } t w hp, adjForInt_eq] at hr'
  rw [← Except.ok.inj hr, ← Except.ok.inj hr']
  exact ⟨rfl, rfl, rfl, rfl, rfl⟩

/-- **weather changes only Shurooq and Maghrib** among the six computed hours -/
theorem weather_only_riseset (p : Params α) (t : TopAstroDay α) (w w' : Weather α) :
    let h := getHours p t w
    let h' := getHours p t w'
    h'.fajr = h.fajr ∧ h'.dhuhr = h.dhuhr ∧ h'.asr = h.asr ∧ h'.isha = h.isha :=
  ⟨rfl, rfl, rfl, rfl⟩

/-- and whether Shurooq/Maghrib exist does not depend on weather -/
theorem weather_keeps_validity (p : Params α) (t : TopAstroDay α) (w w' : Weather α) :
    (getHours p t w').shur.isSome = (getHours p t w).shur.isSome ∧
    (getHours p t w').magh.isSome = (getHours p t w).magh.isSome := by
  simp only [getHours, shurDhuhrMagh]
  cases shurMaghM0Adj t.coords.lat t.cur.dec <;> simp

/-- **absent weather equals the default weather** (1010 mbar, 14 °C) -/
theorem weather_none_is_default (p : Params α) (loc : Location α) (rd : Int) :
    prayerTimesDt p loc rd none = prayerTimesDt p loc rd (some defaultWeather) ∧
    (defaultWeather : Weather α) = ⟨1010.0, 14.0⟩ := ⟨rfl, rfl⟩

/-- over ℝ: an offset of k whole minutes moves the unrounded clock by exactly k minutes and
    leaves the seconds alone (so, by Thm C11 `hourToTime_spec`, the reported time shifts by k
    minutes modulo 24 h in every rounding mode) -/
theorem offset_shifts_minutes (x : ℝ) (k : ℤ) :
    C11.totMin (x + (k : ℝ) / 60) = C11.totMin x + k ∧ C11.secOf (x + (k : ℝ) / 60) = C11.secOf x := by
  have e1 : 60 * (x + (k : ℝ) / 60) = 60 * x + ((k : ℤ) : ℝ) := by ring
  have e2 : 3600 * (x + (k : ℝ) / 60) = 3600 * x + ((60 * k : ℤ) : ℝ) := by push_cast; ring
  simp only [C11.totMin, C11.secOf, e1, e2, Int.floor_add_intCast]
  exact ⟨trivial, by omega⟩

/-- the clock reading wraps every 1440 minutes -/
theorem clock_periodic (M S : ℤ) (j : ℤ) : C11.clock (M + 1440 * j) S = C11.clock M S := by
  simp only [C11.clock]
  have h1 : (M + 1440 * j) / 60 % 24 = M / 60 % 24 := by omega
  have h2 : (M + 1440 * j) % 60 = M % 60 := by omega
  rw [h1, h2]

theorem specTime_periodic (r : Round) (pr : Prayer) (M S j : ℤ) :
    C11.specTime r pr (M + 1440 * j) S = C11.specTime r pr M S := by
  have e : ∀ c : ℤ, (if c ≤ S then M + 1440 * j + 1 else M + 1440 * j) = (if c ≤ S then M + 1 else M) + 1440 * j := by
    intro c; split <;> ring
  cases r <;> simp only [C11.specTime, e, clock_periodic] <;> (try split) <;> simp [clock_periodic]

/-- **a minute offset of k whole minutes shifts exactly that prayer's reported time by exactly k
    minutes (modulo 24 h), in every rounding mode**: over ℝ, with the offset of prayer `pr` raised by
    k, the conversion of the same hour is the stated function of the unrounded minute count moved
    by k, seconds unchanged -/
theorem offset_moves_clock (p : Params ℝ) (pr : Prayer) (hour : ℝ) (k : ℤ) (q : Params ℝ)
    (hq : q.minutes pr = p.minutes pr + k) (hr : q.round = p.round)
    (hlo : -2400000 ≤ hour + p.minutes pr / 60) (hhi : hour + p.minutes pr / 60 < 3999999999)
    (hlo' : -2400000 ≤ hour + q.minutes pr / 60) (hhi' : hour + q.minutes pr / 60 < 3999999999) :
    ∃ M S : ℤ, hourToTime p pr hour = .ok (C11.specTime p.round pr M S) ∧
      hourToTime q pr hour = .ok (C11.specTime p.round pr (M + k) S) := by
  obtain ⟨n1, _, _, _, h1⟩ := C11.hourToTime_spec p pr hour hlo hhi
  obtain ⟨n2, _, _, _, h2⟩ := C11.hourToTime_spec q pr hour hlo' hhi'
  refine ⟨_, _, h1, ?_⟩
  rw [h2, hr]
  -- x_q = x_p + k/60 + 24 (n2 - n1)
  have e : hour + q.minutes pr / 60 + 24 * (n2 : ℝ) =
      (hour + p.minutes pr / 60 + 24 * (n1 : ℝ)) + ((k + 1440 * ((n2 : ℤ) - n1) : ℤ) : ℝ) / 60 := by
    rw [hq]; push_cast; ring
  rw [e]
  obtain ⟨a, b⟩ := offset_shifts_minutes (hour + p.minutes pr / 60 + 24 * (n1 : ℝ)) (k + 1440 * ((n2 : ℤ) - n1))
  rw [a, b]
  have : C11.totMin (hour + p.minutes pr / 60 + 24 * ↑n1) + (k + 1440 * ((n2 : ℤ) - ↑n1)) =
      (C11.totMin (hour + p.minutes pr / 60 + 24 * ↑n1) + k) + 1440 * ((n2 : ℤ) - n1) := by ring
  rw [this, specTime_periodic]

-- non-vacuity: a concrete offset map that changes only Asr's offset satisfies `other_offset_irrelevant` for Fajr
example (p : Params Float) : (fun pr => if pr = Prayer.Asr then 7.0 else p.minutes pr) Prayer.Fajr = p.minutes .Fajr := by
  simp

end IPT.C12
