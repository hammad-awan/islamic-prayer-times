import IPT.Lemmas.ExtLat
import IPT.Thm.C13
/-
  C09 — nearest-good-day fallback finds the closest date with valid twilight.
  The search and the writers are proved for EVERY scalar type and for an arbitrary
  `hoursAt : ℤ → Hours α` (conventional hours of the date `off` days away), so the statements
  hold in particular for the real computation the model plugs in (`envOf`).  The loop bound is
  re-read from ext_lat.rs (`Gen.goodDayBound`).  Existence of a good day within the year for
  |lat| ≤ 64 is an astronomical fact, decided by the falsifier, not a theorem.
-/
namespace IPT.C09
open IPT IPT.ExtLatLemmas
variable {α : Type} [Add α] [Sub α] [Mul α] [Div α] [Neg α] [OfScientific α] [Sc α]

/-- both twilights exist on that day -/
def Good (h : Hours α) : Prop := h.fajr.isSome = true ∧ h.isha.isSome = true

theorem goodHours_iff (h : Hours α) : goodHours h = some h ↔ Good h := by
  unfold goodHours Good
  constructor
  · intro hh; split at hh
    · rename_i hc; simpa [Bool.and_eq_true] using hc
    · simp at hh
  · intro ⟨a, b⟩; simp [a, b]

theorem goodHours_none_iff (h : Hours α) : goodHours h = none ↔ ¬ Good h := by
  unfold goodHours Good
  constructor
  · intro hh; split at hh
    · simp at hh
    · rename_i hc; simpa [Bool.and_eq_true] using hc
  · intro hn; simp only [Bool.and_eq_true]; rw [if_neg hn]

/-- the loop bound is the length of the year of the requested date (366 in leap years).
    False of the code as first found (the bound was the day of the year). -/
theorem search_bound_is_year_length : Gen.goodDayBound = .daysInYear := by decide

/-- **first hit is the closest date, earlier date on ties**: the search returns the hours of
    date-i or date+i for the smallest i ≤ bound at which either is good, preferring date-i -/
theorem search_first_hit_is_closest (hoursAt : Int → Hours α) (bound : Nat) (a : Hours α)
    (h : searchGood hoursAt bound = some a) :
    ∃ i : Nat, i ≤ bound ∧
      (∀ j : Nat, j < i → ¬ Good (hoursAt (-(j : Int))) ∧ ¬ Good (hoursAt (j : Int))) ∧
      ((Good (hoursAt (-(i : Int))) ∧ a = hoursAt (-(i : Int))) ∨
       (¬ Good (hoursAt (-(i : Int))) ∧ Good (hoursAt (i : Int)) ∧ a = hoursAt (i : Int))) := by
  unfold searchGood at h
  rw [List.findSome?_eq_some_iff] at h
  obtain ⟨l1, i, l2, hl, hi, hbefore⟩ := h
  have hlen : l1.length = i := by
    have := congrArg (fun l => l[l1.length]?) hl
    simp only [List.getElem?_append_right (Nat.le_refl _), Nat.sub_self, List.getElem?_cons_zero] at this
    obtain ⟨_, hget⟩ := List.getElem?_eq_some_iff.mp this
    simpa using hget
  have hi_le : i ≤ bound := by
    have : i ∈ List.range (bound + 1) := by rw [hl]; simp
    simp at this; omega
  refine ⟨i, hi_le, ?_, ?_⟩
  · intro j hj
    have hjmem : j ∈ l1 := by
      have h1 : l1 = List.range i := by
        have := congrArg (List.take i) hl
        rw [List.take_range, List.take_left' hlen] at this
        rw [← this]; congr 1; omega
      rw [h1]; simp; exact hj
    have := hbefore j hjmem
    split at this
    · simp at this
    · rename_i hn
      exact ⟨(goodHours_none_iff _).mp hn, (goodHours_none_iff _).mp this⟩
  · split at hi
    · rename_i x hx
      simp only [Option.some.injEq] at hi; subst hi
      obtain ⟨e, f1, f2⟩ := goodHours_some _ _ hx
      left; exact ⟨⟨f1, f2⟩, e⟩
    · rename_i hn
      obtain ⟨e, f1, f2⟩ := goodHours_some _ _ hi
      right; exact ⟨(goodHours_none_iff _).mp hn, ⟨f1, f2⟩, e⟩

/-- the search fails only if no date within `bound` days on either side is good -/
theorem search_none_iff (hoursAt : Int → Hours α) (bound : Nat) :
    searchGood hoursAt bound = none ↔
      ∀ i : Nat, i ≤ bound → ¬ Good (hoursAt (-(i : Int))) ∧ ¬ Good (hoursAt (i : Int)) := by
  unfold searchGood
  rw [List.findSome?_eq_none_iff]
  constructor
  · intro h i hi
    have := h i (by simp; omega)
    split at this
    · simp at this
    · rename_i hn
      exact ⟨(goodHours_none_iff _).mp hn, (goodHours_none_iff _).mp this⟩
  · intro h i hi
    simp at hi
    obtain ⟨h1, h2⟩ := h i (by omega)
    rw [(goodHours_none_iff _).mpr h1]
    exact (goodHours_none_iff _).mpr h2

/-- "all prayers" variant: all six times of the found date, flagged extreme -/
theorem allPrayers_reports_six (p : Params α) (h : PHours α) (env : Env α) (a : Hours α)
    (hp : p.policy = .NearestGoodDayAllPrayersAlways) (hs : searchGood env.hoursAt env.bound = some a) :
    adjNearGood p h env =
      { fajr := a.fajr.map PH.ext, shur := a.shur.map PH.ext, dhuhr := a.dhuhr.map PH.ext,
        asr := a.asr.map PH.ext, magh := a.magh.map PH.ext, isha := a.isha.map PH.ext } := by
  simp [adjNearGood, hs, hp, Policy.isGoodDayAll]

/-- default variant: exactly the missing twilights are taken from the found date, flagged extreme;
    the existing ones and the other four entries are untouched -/
theorem invalid_variant_only_invalid (p : Params α) (h : PHours α) (env : Env α) (a : Hours α)
    (hp : p.policy = .NearestGoodDayFajrIshaInvalid) (hs : searchGood env.hoursAt env.bound = some a) :
    (adjNearGood p h env).fajr = (if h.fajr.isNone then a.fajr.map PH.ext else h.fajr) ∧
    (adjNearGood p h env).isha = (if h.isha.isNone then a.isha.map PH.ext else h.isha) ∧
    SameOthers (adjNearGood p h env) h := by
  rw [adjNearGood_eq p h env (by rw [hp]; rfl), hs]
  exact ⟨rfl, rfl, rfl, rfl, rfl, rfl⟩

/-- so under the default (only-if-invalid) policy a found day fills EACH MISSING twilight with the
    found day's value, flagged extreme; a twilight that exists conventionally is kept as it is
    (`invalid_variant_only_invalid`, and Thm C08).  This is the reading of "both are still
    reported" the checks commit to (DESIGN 14.3.17): when both are missing both are replaced, when
    one is missing that one is. -/
theorem found_day_fills_missing (p : Params α) (h : PHours α) (env : Env α) (a : Hours α)
    (hp : p.policy = .NearestGoodDayFajrIshaInvalid) (hs : searchGood env.hoursAt env.bound = some a) :
    (h.fajr = none → ∃ v, (adjNearGood p h env).fajr = some ⟨v, true⟩ ∧ a.fajr = some v) ∧
    (h.isha = none → ∃ v, (adjNearGood p h env).isha = some ⟨v, true⟩ ∧ a.isha = some v) ∧
    (∀ x, h.fajr = some x → (adjNearGood p h env).fajr = some x) ∧
    (∀ x, h.isha = some x → (adjNearGood p h env).isha = some x) := by
  obtain ⟨f1, f2, _⟩ := searchGood_some _ _ _ hs
  obtain ⟨v, hv⟩ := Option.isSome_iff_exists.mp f1
  obtain ⟨u, hu⟩ := Option.isSome_iff_exists.mp f2
  have hk := invalid_variant_only_invalid p h env a hp hs
  refine ⟨?_, ?_, ?_, ?_⟩
  · intro hf; refine ⟨v, ?_, hv⟩; rw [hk.1, hf]; simp [hv, PH.ext]
  · intro hi; refine ⟨u, ?_, hu⟩; rw [hk.2.1, hi]; simp [hu, PH.ext]
  · intro x hx; rw [hk.1, hx]; simp
  · intro x hx; rw [hk.2.1, hx]; simp

/-- the dates the search visits are the civil dates date-i / date+i (JulianDay::sub/add step the
    NaiveDate by whole days; that its f64 value is the Julian Day of that date is Thm/C13 `jd_sub_add`) -/
theorem stepping_is_civil (j : JD α) (i : Nat) : (j.sub i).rd = j.rd - i ∧ (j.add i).rd = j.rd + i :=
  ⟨rfl, rfl⟩

/-- …and over ℝ the Julian Day value it carries is the Julian Day of that civil date (Thm C13) - for
    every date from 1583 on; `hoursAt_is_that_date` below draws the conclusion for the environment -/
theorem stepping_lands_on_that_date (rd : Int) (gmt : ℝ) (i : ℕ) (h : C13.rd1583 ≤ rd - i) :
    ((JD.new rd gmt).sub i).value = (JD.new (rd - i) gmt).value ∧
    ((JD.new rd gmt).add i).value = (JD.new (rd + i) gmt).value :=
  ⟨(C13.jd_sub_is_jd_of_date rd gmt i h).1, (C13.jd_sub_is_jd_of_date rd gmt i h).2.2.1⟩

/-- **the day the search looks at IS the conventional computation of the date that many days away**:
    in the environment the real code builds (`envOf`), `hoursAt (∓i)` equals `getHours` on the
    ephemeris of the civil date rd ∓ i at the same place - over ℝ, every date from 1583 on -/
theorem hoursAt_is_that_date (p : Params ℝ) (c : Coords ℝ) (w : Weather ℝ) (rd : Int) (gmt : ℝ) (i : ℕ)
    (h : C13.rd1583 ≤ rd - i) :
    (envOf p (topFromJd (JD.new rd gmt) c) w).hoursAt (-(i : Int)) = getHours p (topFromJd (JD.new (rd - i) gmt) c) w ∧
    (envOf p (topFromJd (JD.new rd gmt) c) w).hoursAt (i : Int) = getHours p (topFromJd (JD.new (rd + i) gmt) c) w := by
  obtain ⟨a, _, b, _⟩ := C13.jd_sub_is_jd_of_date rd gmt i h
  have e1 : (JD.new rd gmt).sub i = JD.new (rd - i) gmt := by
    simp only [JD.new, JD.sub] at a ⊢; rw [a]
  have e2 : (JD.new rd gmt).add i = JD.new (rd + i) gmt := by
    simp only [JD.new, JD.add] at b ⊢; rw [b]
  constructor
  · simp only [envOf, topFromJd, topFromAd, astroDayNew]
    rcases Nat.eq_zero_or_pos i with hi | hi
    · subst hi; simp at e1 e2 ⊢; simp [e2]
    · have : (-(i:Int)) < 0 := by omega
      simp only [this, if_true, Int.natAbs_neg, Int.natAbs_natCast, e1]
  · simp only [envOf, topFromJd, topFromAd, astroDayNew]
    have : ¬ ((i:Int)) < 0 := by omega
    simp only [this, if_false, Int.natAbs_natCast, e2]

-- non-vacuity: a search space with a tie at distance 2 (both date-2 and date+2 good) returns
-- the earlier date (the one whose Shurooq slot is empty in this toy space)
example :
    (searchGood (α := Float) (fun off => if off = -2 then ⟨some 1.0, none, none, none, none, some 2.0⟩
      else if off = 2 then ⟨some 3.0, some 9.0, none, none, none, some 4.0⟩ else ⟨none, none, none, none, none, none⟩) 5).map
        (fun h => h.shur.isSome) = some false := by
  simp [searchGood, goodHours, List.range, List.range.loop, List.findSome?]

end IPT.C09
