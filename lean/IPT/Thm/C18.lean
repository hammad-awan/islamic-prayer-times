import IPT.Model.F64
import IPT.Model.Bounded
import IPT.Lemmas.Grammar
import IPT.Real.Inst
import Mathlib.Order.Monotone.Basic
import Mathlib.Tactic.Ring
import Mathlib.Tactic.Linarith
/-
  C18 — validated quantities hold only in-range values, however they are constructed.
  Bit-level theorems about IEEE-754 binary64 patterns (IPT/Model/F64.lean; its comparison order is
  compared with Rust's `<=`/`<`/`==` and with Lean's Float on bit-pattern streams, unit `f64cmp`):
  the range check accepts exactly the finite patterns whose exact value lies in [lo, hi], bounds
  included; NaN and ±∞ are rejected; the accepted value is stored unchanged.  The six ranges and
  the serde(try_from) attribute of each type are re-read from the source.  Text and JSON routes
  are the exact decimal value rounded to nearest-even (model validated on >10⁶ strings against
  Rust's parser and serde_json; correct rounding is NOT proved) followed by the same range check.
  Two renderings of the range check appear below: the generic `tryFrom` (scalar comparisons, bounds
  from the regenerated `Gen.*_LO/HI`) and the bit-level `tryFromBits` (bounds `boundBits`, typed in).
  They are tied at run time, not by a theorem: the driver's `rangecheck` request compares the bit
  patterns of the regenerated constants with `boundBits` on every run (unit `bounded`), and unit
  `f64cmp` compares the bit-level order with Lean's and Rust's float comparison.
-/
namespace IPT.C18
open IPT IPT.F64

variable {α : Type} [Add α] [Sub α] [Mul α] [Div α] [Neg α] [OfScientific α] [Sc α]

/-- the six documented closed ranges -/
theorem documented_ranges :
    (Gen.Gmt_LO : α) = (-12.0) ∧ (Gen.Gmt_HI : α) = 12.0 ∧
    (Gen.Latitude_LO : α) = (-90.0) ∧ (Gen.Latitude_HI : α) = 90.0 ∧
    (Gen.Longitude_LO : α) = (-180.0) ∧ (Gen.Longitude_HI : α) = 180.0 ∧
    (Gen.Elevation_LO : α) = (-420.0) ∧ (Gen.Elevation_HI : α) = 8848.0 ∧
    (Gen.Pressure_LO : α) = 100.0 ∧ (Gen.Pressure_HI : α) = 1050.0 ∧
    (Gen.Temperature_LO : α) = (-90.0) ∧ (Gen.Temperature_HI : α) = 57.0 :=
  ⟨rfl, rfl, rfl, rfl, rfl, rfl, rfl, rfl, rfl, rfl, rfl, rfl⟩

/-- **the range check over the reals**: the generic `tryFrom` (the one the hours model and the CLI
    wiring use) accepts exactly the values in the closed range of the regenerated bounds and stores
    them unchanged - the real-number reading of `accepted_iff_in_range` below, which states the same
    at the level of binary64 bit patterns -/
theorem tryFrom_real_iff (t : BType) (v : ℝ) :
    (tryFrom t v = some v ↔ (t.lo : ℝ) ≤ v ∧ v ≤ (t.hi : ℝ)) ∧ (tryFrom t v = none ↔ ¬ ((t.lo : ℝ) ≤ v ∧ v ≤ (t.hi : ℝ))) := by
  by_cases h : (t.lo : ℝ) ≤ v ∧ v ≤ (t.hi : ℝ) <;> simp [tryFrom, h]

/-- every one of the six types routes JSON through `try_from`.  False of the code as first found
    (Pressure and Temperature lacked `serde(try_from = "f64")`). -/
theorem json_checked_all : ∀ t : BType, t.jsonChecked = true := by
  intro t; cases t <;> rfl

/-- so the JSON number route and the number route take the same decision and store the same value -/
theorem json_route_eq_number_route (t : BType) (v : α) : fromJsonNumber t v = tryFrom t v := by
  simp [fromJsonNumber, json_checked_all t]

/-- an accepted value reads back identical (the constructor stores its argument) -/
theorem tryFrom_id (t : BType) (v x : α) (h : tryFrom t v = some x) : x = v := by
  unfold tryFrom at h; split at h
  exacts [(Option.some.inj h).symm, nomatch h]

/-! ### the order of bit patterns -/

/-- the exact magnitude from the exponent field `e` and the mantissa field `f` -/
theorem scaledMag_mk (e f : Nat) (hf : f < 2 ^ 52) :
    scaledMag (2 ^ 52 * e + f) = if e = 0 then f else (2 ^ 52 + f) * 2 ^ (e - 1) := by
  unfold scaledMag
  rw [Nat.mul_add_div (Nat.two_pow_pos 52), Nat.mul_add_mod, Nat.div_eq_of_lt hf, Nat.mod_eq_of_lt hf, Nat.add_zero]

theorem scaledMag_step (m : Nat) : scaledMag m < scaledMag (m + 1) := by
  have hf := Nat.mod_lt m (Nat.two_pow_pos 52)
  rw [← Nat.div_add_mod m (2 ^ 52)]
  generalize m / 2 ^ 52 = e, m % 2 ^ 52 = f at hf ⊢
  rw [scaledMag_mk e f hf]
  rcases Nat.lt_or_ge (f + 1) (2 ^ 52) with h | h
  · -- same exponent, mantissa + 1
    rw [Nat.add_assoc, scaledMag_mk e (f + 1) h]
    split
    · omega
    · exact Nat.mul_lt_mul_of_pos_right (by omega) (Nat.two_pow_pos _)
  · -- the mantissa wraps to 0, exponent + 1
    obtain rfl : f = 2 ^ 52 - 1 := by omega
    rw [show 2 ^ 52 * e + (2 ^ 52 - 1) + 1 = 2 ^ 52 * (e + 1) + 0 by omega, scaledMag_mk _ 0 (by decide),
      if_neg (Nat.succ_ne_zero e), Nat.add_sub_cancel]
    cases e with
    | zero => rw [if_pos rfl]; omega
    | succ k =>
      rw [if_neg (Nat.succ_ne_zero k), Nat.add_sub_cancel, Nat.pow_succ 2 k]
      have := Nat.two_pow_pos k
      omega

/-- the exact magnitude is strictly increasing in the magnitude bits -/
theorem scaledMag_strictMono : StrictMono scaledMag := strictMono_nat_of_lt_succ scaledMag_step

/-- a strictly increasing `f` with `f 0 = 0`, applied under the sign, keeps the order of signed
    magnitudes (−0 and +0 are the one place where two of them coincide, before and after) -/
theorem signed_le_iff {f : ℕ → ℕ} (hf : StrictMono f) (h0 : f 0 = 0) (s t : Bool) (m n : ℕ) :
    (if s then -(m : ℤ) else m) ≤ (if t then -(n : ℤ) else n) ↔
    (if s then -(f m : ℤ) else f m) ≤ (if t then -(f n : ℤ) else f n) := by
  cases s <;> cases t <;> simp only [if_true, if_false, Bool.false_eq_true]
  · rw [Int.ofNat_le, Int.ofNat_le, hf.le_iff_le]
  · -- m ≤ -n and f m ≤ -f n both say m = n = 0
    have := hf.le_iff_le (a := m) (b := 0)
    have := hf.le_iff_le (a := n) (b := 0)
    omega
  · omega
  · rw [neg_le_neg_iff, neg_le_neg_iff, Int.ofNat_le, Int.ofNat_le, hf.le_iff_le]

/-- on non-NaN patterns the ordering key orders exact values: key a ≤ key b ↔ value a ≤ value b -/
theorem key_le_iff_scaled_le (a b : Nat) : key a ≤ key b ↔ scaled a ≤ scaled b :=
  signed_le_iff scaledMag_strictMono (by decide) _ _ _ _

/-! ### finite, infinite, NaN: the magnitude bits below, at, above those of +∞ -/

theorem magBits_eq (b : Nat) : magBits b = manBits b + 2 ^ 52 * expBits b ∧ manBits b < 2 ^ 52 ∧ expBits b < 2048 := by
  refine ⟨?_, Nat.mod_lt _ (Nat.two_pow_pos 52), Nat.mod_lt _ (by decide)⟩
  unfold magBits manBits expBits
  rw [show 2 ^ 63 = 2 ^ 52 * 2048 from rfl, Nat.mod_mul]

theorem isFinite_iff (b : Nat) : isFinite b = true ↔ magBits b < 2047 * 2 ^ 52 := by
  have := magBits_eq b; simp only [isFinite, bne_iff_ne]; omega

theorem isInf_iff (b : Nat) : isInf b = true ↔ magBits b = 2047 * 2 ^ 52 := by
  have := magBits_eq b; simp only [isInf, Bool.and_eq_true, beq_iff_eq]; omega

theorem isNaN_iff (b : Nat) : isNaN b = true ↔ 2047 * 2 ^ 52 < magBits b := by
  have := magBits_eq b; simp only [isNaN, Bool.and_eq_true, beq_iff_eq, bne_iff_ne]; omega

theorem natAbs_key (b : Nat) : (key b).natAbs = magBits b := by unfold key; split <;> omega

/-! ### the range check -/

theorem le_iff (a b : Nat) : le a b = true ↔ ¬ isNaN a = true ∧ ¬ isNaN b = true ∧ key a ≤ key b := by
  simp only [le, Bool.and_eq_true, Bool.not_eq_true', decide_eq_true_eq, Bool.not_eq_true, and_assoc]

/-- an accepted value is stored unchanged -/
theorem tryFromBits_eq_some (lo hi v x : Nat) : tryFromBits lo hi v = some x ↔ contains lo hi v = true ∧ v = x := by
  unfold tryFromBits; split <;> simp [*]

/-- **NaN is rejected**, whatever the bounds -/
theorem nan_rejected (lo hi v : Nat) (h : isNaN v = true) : tryFromBits lo hi v = none := by
  simp [tryFromBits, contains, le, h]

/-- **the range check accepts exactly the finite patterns whose exact value is in [lo, hi]** —
    both bounds included — and stores the pattern unchanged -/
theorem tryFrom_iff (lo hi v : Nat) (hlo : isFinite lo = true) (hhi : isFinite hi = true) :
    tryFromBits lo hi v = some v ↔ (isFinite v = true ∧ scaled lo ≤ scaled v ∧ scaled v ≤ scaled hi) := by
  rw [tryFromBits_eq_some, and_iff_left rfl, ← key_le_iff_scaled_le, ← key_le_iff_scaled_le]
  -- |key| is the magnitude: between finite bounds it stays below that of ±∞, and what is finite is no NaN
  have := natAbs_key lo; have := natAbs_key hi; have := natAbs_key v
  simp only [contains, Bool.and_eq_true, le_iff, isFinite_iff, isNaN_iff] at *
  omega

theorem not_finite_rejected (lo hi v : Nat) (hlo : isFinite lo = true) (hhi : isFinite hi = true)
    (h : ¬ isFinite v = true) : tryFromBits lo hi v = none :=
  Option.eq_none_iff_forall_ne_some.mpr fun x hx => by
    obtain rfl := ((tryFromBits_eq_some lo hi v x).mp hx).2
    exact h ((tryFrom_iff lo hi v hlo hhi).mp hx).1

/-- **±∞ is rejected** when the bounds are finite -/
theorem inf_rejected (lo hi v : Nat) (hlo : isFinite lo = true) (hhi : isFinite hi = true) (h : isInf v = true) :
    tryFromBits lo hi v = none :=
  not_finite_rejected lo hi v hlo hhi (by rw [isFinite_iff]; rw [isInf_iff] at h; omega)

theorem boundBits_values :
    scaled (boundBits .Gmt).1 = -12 * 2 ^ 1074 ∧ scaled (boundBits .Gmt).2 = 12 * 2 ^ 1074 ∧
    scaled (boundBits .Latitude).1 = -90 * 2 ^ 1074 ∧ scaled (boundBits .Latitude).2 = 90 * 2 ^ 1074 ∧
    scaled (boundBits .Longitude).1 = -180 * 2 ^ 1074 ∧ scaled (boundBits .Longitude).2 = 180 * 2 ^ 1074 ∧
    scaled (boundBits .Elevation).1 = -420 * 2 ^ 1074 ∧ scaled (boundBits .Elevation).2 = 8848 * 2 ^ 1074 ∧
    scaled (boundBits .Pressure).1 = 100 * 2 ^ 1074 ∧ scaled (boundBits .Pressure).2 = 1050 * 2 ^ 1074 ∧
    scaled (boundBits .Temperature).1 = -90 * 2 ^ 1074 ∧ scaled (boundBits .Temperature).2 = 57 * 2 ^ 1074 := by
  decide +kernel

theorem boundBits_finite (t : BType) : isFinite (boundBits t).1 = true ∧ isFinite (boundBits t).2 = true := by
  cases t <;> decide +kernel

/-- **a latitude (etc.) exists only inside its documented closed range**: accepted ⇔ finite and
    lo·2^1074 ≤ value·2^1074 ≤ hi·2^1074 -/
theorem accepted_iff_in_range (t : BType) (v : Nat) :
    tryFromBits (boundBits t).1 (boundBits t).2 v = some v ↔
      (isFinite v = true ∧ scaled (boundBits t).1 ≤ scaled v ∧ scaled v ≤ scaled (boundBits t).2) :=
  tryFrom_iff _ _ v (boundBits_finite t).1 (boundBits_finite t).2

/-! ### the three routes -/

/-- **the text route is the number route applied to the parsed value** (it accepts exactly the
    strings whose correctly rounded value the number route accepts) -/
theorem textRoute_eq_number_route (lo hi : Nat) (s : String) (b : Nat) (hb : (parseRust s).bits? = some b) :
    textRoute lo hi s = tryFromBits lo hi b := by
  simp [textRoute, hb]

/-- **the text route never yields a value outside the range**: whatever the string, what `FromStr`
    returns is the parsed pattern itself, finite, with lo ≤ value ≤ hi -/
theorem textRoute_in_range (t : BType) (s : String) (x : Nat)
    (h : textRoute (boundBits t).1 (boundBits t).2 s = some x) :
    isFinite x = true ∧ scaled (boundBits t).1 ≤ scaled x ∧ scaled x ≤ scaled (boundBits t).2 ∧
    (parseRust s).bits? = some x := by
  cases hb : (parseRust s).bits? with
  | none => simp [textRoute, hb] at h
  | some b =>
    rw [textRoute_eq_number_route _ _ s b hb] at h
    obtain rfl := ((tryFromBits_eq_some _ _ b x).mp h).2
    have ⟨hf, h1, h2⟩ := (accepted_iff_in_range t b).mp h
    exact ⟨hf, h1, h2, rfl⟩

/-- **the JSON route agrees with the text route** on every string both grammars read to the same
    pattern, for a type that carries `serde(try_from = "f64")` (all six do: `json_checked_all`):
    a value too large for f64 is an error on the JSON route and an infinity - rejected - on the
    text route.  The hypothesis carries the grammar agreement: it holds for every JSON number
    (the JSON number grammar is contained in Rust's: `json_grammar_in_text_grammar`, so `json_text_agree_on_json_numbers` below needs no such hypothesis) and
    fails exactly on the strings only Rust's grammar reads - `+1`, `01`, `1.`, `.5`, `inf`, `nan` - which
    the text route accepts or rejects by value and the JSON route rejects as malformed: on those the
    routes differ by design of the two grammars, and "the three routes agree" is read as agreement
    on what each route can express (DESIGN 14.3.18). -/
theorem jsonRoute_eq_textRoute (lo hi : Nat) (hlo : isFinite lo = true) (hhi : isFinite hi = true)
    (s : String) (h : (parseJson s).bits? = (parseRust s).bits?) :
    jsonRoute true lo hi s = textRoute lo hi s := by
  unfold jsonRoute textRoute
  rw [h]
  cases (parseRust s).bits? with
  | none => rfl
  | some b =>
    by_cases hf : isFinite b = true
    · simp [hf]
    · simp [hf, not_finite_rejected lo hi b hlo hhi hf]

/-- **the JSON number grammar is contained in the text grammar, with the same reading**: every
    string the JSON route reads as a number, `str::parse::<f64>` reads as the same number -/
theorem json_grammar_in_text_grammar (s : String) (d : Dec) (h : parseJson s = .num d) :
    parseRust s = .num d := parseRust_of_parseJson s d h

/-- **on every JSON number the JSON route and the text route agree** (acceptance and stored pattern),
    with no hypothesis on the string beyond its being a JSON number: the malformed-for-JSON strings
    (`+1`, `01`, `1.`, `.5`, `inf`, `nan`) are exactly where the two grammars differ by design -/
theorem json_text_agree_on_json_numbers (lo hi : Nat) (hlo : isFinite lo = true) (hhi : isFinite hi = true)
    (s : String) (hj : parseJson s ≠ .bad) : jsonRoute true lo hi s = textRoute lo hi s := by
  rcases parseJson_num_or_bad s with hb | ⟨d, hd⟩
  · exact absurd hb hj
  · exact jsonRoute_eq_textRoute lo hi hlo hhi s (by rw [hd, parseRust_of_parseJson s d hd])

/-- whatever the JSON route accepts, the text route accepts with the same pattern - for EVERY string -/
theorem json_accepts_imp_text_accepts (lo hi : Nat) (hlo : isFinite lo = true) (hhi : isFinite hi = true)
    (s : String) (b : Nat) (h : jsonRoute true lo hi s = some b) : textRoute lo hi s = some b := by
  by_cases hj : parseJson s = .bad
  · simp [jsonRoute, hj, Parsed.bits?] at h
  · exact json_text_agree_on_json_numbers lo hi hlo hhi s hj ▸ h

-- non-vacuity: "1.5e1" is a JSON number and both routes store 15.0 as a latitude; "+1" is not JSON
example : parseJson "1.5e1" ≠ .bad := by decide
example : jsonRoute true (boundBits .Latitude).1 (boundBits .Latitude).2 "1.5e1" = some 0x402E000000000000 := by decide +kernel
example : textRoute (boundBits .Latitude).1 (boundBits .Latitude).2 "1.5e1" = some 0x402E000000000000 := by decide +kernel
example : parseJson "+1" = .bad := by decide

/-- without the attribute the JSON route would accept any finite number (the defect repaired by
    166a3b7): the unchecked route returns the parsed pattern whatever the range -/
theorem jsonRoute_unchecked (lo hi : Nat) (s : String) (b : Nat) (hb : (parseJson s).bits? = some b)
    (hf : isFinite b = true) : jsonRoute false lo hi s = some b := by
  simp [jsonRoute, hb, hf]

-- non-vacuity / bounds included: 90.0 is a latitude, the next double above it is not, -0.0 is
example : tryFromBits (boundBits .Latitude).1 (boundBits .Latitude).2 0x4056800000000000 = some 0x4056800000000000 := by decide +kernel
example : tryFromBits (boundBits .Latitude).1 (boundBits .Latitude).2 0x4056800000000001 = none := by decide +kernel
example : tryFromBits (boundBits .Latitude).1 (boundBits .Latitude).2 0x8000000000000000 = some 0x8000000000000000 := by decide +kernel
example : tryFromBits (boundBits .Pressure).1 (boundBits .Pressure).2 0x7FF8000000000000 = none := by decide +kernel

end IPT.C18
