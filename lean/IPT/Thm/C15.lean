import IPT.Model.Block
import IPT.Thm.C14
/-
  C15 — parallel range computation equals the sequential one under every schedule.
  Proved for the protocol model (IPT/Model/Block.lean), for EVERY schedule, every number of
  workers and every partition list: the multiset of partial results is conserved; when the
  collector's loop has ended everything has been merged exactly once; from every reachable state
  that has not ended some action is enabled (no deadlock, no lost wake-up: the loop can only end
  after the original sender was dropped and every worker has sent); every schedule has at most
  3k+2 steps.  With Thm C14 (the partition is an exact cover) the merged map is the sequential map.
  The skeleton of the real function (sender cloned per worker inside the loop, original dropped
  after the loop and before join, collector appends every message) is re-read from mod.rs.
  A worker that panics inside its computation (action `die`) is part of the model.
  NOT proved: std::sync::mpsc and thread::scope themselves (modelled by their documented contract),
  a failure of `spawn` itself (OS refuses a thread) and a panic inside the collector's `append`;
  real scheduling is exercised by the falsifier with forced worker counts and seeded perturbation.

  Every fact about a step is proved by cases on `Step` (the six shapes of an enabled `bStep`), every
  fact about a schedule by `bRun_induction`.
-/
namespace IPT.C15
open IPT
variable {P : Type}

/-- build guard: the skeleton the translator reads off `prayer_times_dt_rng_block` is the one the
    transition system `bStep` was written for (clone per worker inside the loop, drop after the loop
    and before the join, unconditional append).  `bStep` is not parameterised by the shape: the
    theorems below are about the protocol so described, and this guard is what ties the source to it. -/
theorem source_skeleton : Gen.protocol = ⟨true, true, true, true, true, true⟩ := by decide

/-- `bStep` as a relation: the six ways a step is taken, each with its guard and its successor -/
inductive Step (s : BState P) : BAct → BState P → Prop
  | spawn {p rest} : s.toSpawn = p :: rest → s.txAlive = true →
      Step s .spawn { s with toSpawn := rest, running := s.running ++ [p] }
  | send {i p} : s.running[i]? = some p → s.done = false →
      Step s (.send i) { s with running := s.running.eraseIdx i, queue := s.queue ++ [p] }
  | die {i p} : s.running[i]? = some p → s.done = false →
      Step s (.die i) { s with running := s.running.eraseIdx i, panicked := true }
  | dropTx : s.toSpawn = [] → s.txAlive = true → Step s .dropTx { s with txAlive := false }
  | recv {p q} : s.queue = p :: q → s.done = false →
      Step s .recv { s with queue := q, merged := s.merged ++ [p] }
  | close : s.queue = [] → s.running = [] → s.toSpawn = [] → s.txAlive = false → s.done = false →
      Step s .close { s with done := true }

theorem bStep_iff {s s' : BState P} {a : BAct} : bStep s a = some s' ↔ Step s a s' := by
  constructor
  · intro h
    unfold bStep at h
    split at h <;> split at h <;> try split at h
    all_goals cases h
    next hp ht => exact .spawn hp ht
    next hp hd => exact .send hp (eq_false_of_ne_true hd)
    next hp hd => exact .die hp (eq_false_of_ne_true hd)
    next hc =>
      simp only [Bool.and_eq_true, List.isEmpty_iff] at hc
      exact .dropTx hc.1 hc.2
    next hp hd => exact .recv hp (eq_false_of_ne_true hd)
    next hc =>
      simp only [Bool.and_eq_true, List.isEmpty_iff, Bool.not_eq_true'] at hc
      exact .close hc.1.1.1.1 hc.1.1.1.2 hc.1.1.2 hc.1.2 hc.2
  · intro h
    cases h <;> simp [bStep, *]

/-- induction over a schedule that runs to `s'`, from the last state backwards -/
theorem bRun_induction {motive : BState P → List BAct → Prop} {s' : BState P} (nil : motive s' [])
    (cons : ∀ {s a s1 as}, bStep s a = some s1 → bRun s1 as = some s' → motive s1 as → motive s (a :: as)) :
    ∀ {as s}, bRun s as = some s' → motive s as
  | [], _, rfl => nil
  | a :: as, s, h => by
    unfold bRun at h
    split at h
    · exact cons ‹_› h (bRun_induction nil cons h)
    · cases h

theorem perm_cons_eraseIdx {p : P} : ∀ {l : List P} {i : Nat}, l[i]? = some p → l.Perm (p :: l.eraseIdx i)
  | _ :: _, 0, h => by cases h; exact .refl _
  | a :: _, _ + 1, h => ((perm_cons_eraseIdx (List.getElem?_cons_succ ▸ h)).cons a).trans (.swap ..)

/-- the `panicked` flag is set by `die` only and never cleared -/
theorem step_panicked {s s' : BState P} {a : BAct} (h : bStep s a = some s') (hp : s'.panicked = false) :
    s.panicked = false ∧ ∀ i, a ≠ .die i := by
  cases bStep_iff.mp h with
  | die => cases hp
  | _ => exact ⟨hp, nofun⟩

theorem run_panicked {s s' : BState P} {as : List BAct} (h : bRun s as = some s') (hp : s'.panicked = false) :
    s.panicked = false :=
  bRun_induction (motive := fun s _ => s.panicked = false) hp (fun h1 _ ih => (step_panicked h1 ih).1) h

/-- everything that exists in a state, as one list -/
def allParts (s : BState P) : List P := s.toSpawn ++ s.running ++ s.queue ++ s.merged

/-- **conservation**: a step that is not a worker's panic only moves a partial result from one place
    to the next — every partial result occurs in the state as often as before; a panic loses one -/
theorem step_count [BEq P] [LawfulBEq P] {s s' : BState P} {a : BAct} (h : bStep s a = some s')
    (hnd : ∀ i, a ≠ .die i) (x : P) : (allParts s').count x = (allParts s).count x := by
  cases bStep_iff.mp h with
  | spawn hs _ => simp only [allParts, hs, List.count_append, List.count_cons, List.count_nil]; omega
  | send hr _ =>
    have := (perm_cons_eraseIdx hr).count_eq x
    simp only [allParts, List.count_append, List.count_cons, List.count_nil] at this ⊢; omega
  | die => exact absurd rfl (hnd _)
  | recv hq _ => simp only [allParts, hq, List.count_append, List.count_cons, List.count_nil]; omega
  | dropTx | close => rfl

theorem run_count [BEq P] [LawfulBEq P] {s s' : BState P} {as : List BAct} (h : bRun s as = some s')
    (hp : s'.panicked = false) (x : P) : (allParts s').count x = (allParts s).count x :=
  bRun_induction (motive := fun s _ => (allParts s').count x = (allParts s).count x) rfl
    (fun h1 h2 ih => ih.trans (step_count h1 (step_panicked h1 (run_panicked h2 hp)).2 x)) h

/-- the state invariant that makes `close` safe: once the loop has ended nothing is left anywhere -/
def Inv (s : BState P) : Prop :=
  (s.done = true → s.toSpawn = [] ∧ s.running = [] ∧ s.queue = [] ∧ s.txAlive = false) ∧
  (s.txAlive = false → s.toSpawn = [])

theorem inv_init (parts : List P) : Inv (bInit parts) := ⟨nofun, nofun⟩

theorem inv_step (s s' : BState P) (a : BAct) (hi : Inv s) (h : bStep s a = some s') : Inv s' := by
  obtain ⟨i1, i2⟩ := hi
  cases bStep_iff.mp h with
  -- the original sender is alive, so the loop has not ended and neither clause applies
  | spawn _ ht =>
    exact ⟨fun hd => Bool.noConfusion (ht.symm.trans (i1 hd).2.2.2), fun hf => Bool.noConfusion (ht.symm.trans hf)⟩
  | send _ hd | die _ hd | recv _ hd => exact ⟨fun hd' => Bool.noConfusion (hd.symm.trans hd'), i2⟩
  | dropTx hs _ => exact ⟨fun hd => ⟨hs, (i1 hd).2.1, (i1 hd).2.2.1, rfl⟩, fun _ => hs⟩
  | close hq hr hs ht _ => exact ⟨fun _ => ⟨hs, hr, hq, ht⟩, i2⟩

theorem inv_run (as : List BAct) : ∀ (s s' : BState P), Inv s → bRun s as = some s' → Inv s' :=
  fun _ s' hi h => bRun_induction (motive := fun s _ => Inv s → Inv s') id
    (fun h1 _ ih hi => ih (inv_step _ _ _ hi h1)) h hi

/-- when the collector's loop has ended without a panic, what it has merged is a rearrangement of
    the partition list: by `Inv` nothing is left elsewhere, and nothing was lost or duplicated on the way -/
theorem done_perm [BEq P] [LawfulBEq P] {parts : List P} {as : List BAct} {s : BState P}
    (h : bRun (bInit parts) as = some s) (hd : s.done = true) (hnp : s.panicked = false) :
    s.merged.Perm parts := by
  refine List.perm_iff_count.mpr fun x => ?_
  have hc := run_count h hnp x
  obtain ⟨h1, h2, h3, _⟩ := (inv_run as _ _ (inv_init parts) h).1 hd
  simpa [allParts, h1, h2, h3, bInit] using hc

/-- **under every schedule, when the collector's loop has ended the merged results are exactly
    the workers' results — nothing lost, nothing duplicated** -/
theorem done_eq_seq [BEq P] [LawfulBEq P] (parts : List P) (as : List BAct) (s : BState P)
    (h : bRun (bInit parts) as = some s) (hd : s.done = true) (hnp : s.panicked = false) :
    ∀ x, s.merged.count x = parts.count x :=
  (done_perm h hd hnp).count_eq

/-- hence the collected map has exactly the entries of the workers' maps: appending the partial
    results in any arrival order gives the same collection of (date, result) entries as appending
    them in partition order — with disjoint sub-ranges (Thm C14) that is the sequential map -/
theorem merged_entries_eq {E : Type} [BEq E] [LawfulBEq E] (parts : List (List E)) (as : List BAct) (s : BState (List E))
    (h : bRun (bInit parts) as = some s) (hd : s.done = true) (hnp : s.panicked = false) :
    ∀ x : E, s.merged.flatten.count x = parts.flatten.count x :=
  (done_perm h hd hnp).flatten.count_eq

/-- **no deadlock / no lost wake-up**: from every reachable state in which the loop has not ended,
    some thread can move -/
theorem no_deadlock (parts : List P) (as : List BAct) (s : BState P)
    (h : bRun (bInit parts) as = some s) (hd : s.done = false) : ∃ a s', bStep s a = some s' := by
  have hi := (inv_run as _ _ (inv_init parts) h).2
  suffices ∃ a s', Step s a s' from let ⟨a, s', h⟩ := this; ⟨a, s', bStep_iff.mpr h⟩
  match hs : s.toSpawn, hq : s.queue, hr : s.running, ht : s.txAlive with
  | _ :: _, _, _, false => exact absurd (hi ht) (by simp [hs])
  | _ :: _, _, _, true => exact ⟨_, _, .spawn hs ht⟩
  | [], _ :: _, _, _ => exact ⟨_, _, .recv hq hd⟩
  | [], [], p :: _, _ => exact ⟨.send 0, _, .send (p := p) (by rw [hr]; rfl) hd⟩
  | [], [], [], true => exact ⟨_, _, .dropTx hs ht⟩
  | [], [], [], false => exact ⟨_, _, .close hq hr hs ht hd⟩

/-- **a worker's panic is never swallowed**: from the step in which a worker dies the state is
    flagged, whatever happens afterwards - the collector still ends (`no_deadlock`,
    `schedule_bound` do not depend on the flag), and the caller sees the panic instead of a
    partial map -/
theorem panic_is_flagged (as : List BAct) (s s1 s' : BState P) (i : Nat)
    (h1 : bStep s (.die i) = some s1) (h : bRun s1 as = some s') : s'.panicked = true :=
  eq_true_of_ne_false fun hp => by cases bStep_iff.mp h1; cases run_panicked h hp

/-- progress measure: strictly decreases with every step -/
def measure (s : BState P) : Nat :=
  3 * s.toSpawn.length + 2 * s.running.length + s.queue.length + (if s.txAlive then 1 else 0) + (if s.done then 0 else 1)

theorem step_decreases {s s' : BState P} {a : BAct} (h : bStep s a = some s') : measure s' < measure s := by
  cases bStep_iff.mp h with
  | spawn hs _ => simp only [measure, hs, List.length_cons, List.length_append, List.length_nil]; omega
  | send hr _ | die hr _ =>
    have := (perm_cons_eraseIdx hr).length_eq
    simp only [measure, List.length_cons, List.length_append, List.length_nil] at this ⊢; omega
  | dropTx _ ht => simp [measure, ht]
  | recv hq _ => simp only [measure, hq, List.length_cons]; omega
  | close _ _ _ _ hd => simp [measure, hd]

/-- **termination**: every schedule from the initial state with k partitions has at most 3k+2 steps -/
theorem run_length_le (as : List BAct) : ∀ (s s' : BState P), bRun s as = some s' → as.length + measure s' ≤ measure s :=
  fun _ s' h => bRun_induction (motive := fun s as => as.length + measure s' ≤ measure s) (Nat.zero_add _ ▸ Nat.le_refl _)
    (fun h1 _ ih => by have := step_decreases h1; simp only [List.length_cons]; omega) h

theorem schedule_bound (parts : List P) (as : List BAct) (s : BState P) (h : bRun (bInit parts) as = some s) :
    as.length ≤ 3 * parts.length + 2 := by
  have h0 : measure (bInit parts) = 3 * parts.length + 2 := rfl
  have := run_length_le as _ _ h
  omega

/-- (definition unfolding) the sequential path is taken iff one core or fewer than the threshold of
    days per core; both paths return the same map, so nothing below depends on it -/
theorem uses_sequential_iff (days avail minDays : Nat) :
    usesSequential days avail minDays = true ↔ avail = 1 ∨ days / avail < minDays := by
  simp [usesSequential]

/-- the partial results are computed for the sub-ranges of `partition`, whose concatenation is
    exactly the range (Thm C14 `partition_cover`): together with `done_eq_seq` the collected map has
    the same entries as the sequential one -/
theorem partition_is_exact_cover (s e : Int) (k : Nat) (h : s ≤ e) : C14.CoversFrom e s (partition s e k) :=
  C14.partition_cover s e k h

section EndToEnd
variable {α : Type} [Add α] [Sub α] [Mul α] [Div α] [Neg α] [OfScientific α] [Sc α]

/-- what one worker computes: the sequential range function on its block
    (`prayer_times_dt_rng(params, location, block)` inside the spawned closure) -/
def workerResult (p : Params α) (loc : Location α) (blk : Int × Int) : List (Int × Except Panic DayTimes) :=
  C14.rngModel p loc blk.1 blk.2

/-- the collector's map after a completed schedule: the blocks' results appended in arrival order -/
def collected (p : Params α) (loc : Location α) (merged : List (Int × Int)) : List (Int × Except Panic DayTimes) :=
  merged.flatMap (workerResult p loc)

theorem lookup_graph {β : Type} (f : Int → β) (d : Int) : ∀ l : List Int,
    (l.map fun x => (x, f x)).lookup d = if d ∈ l then some (f d) else none
  | [] => rfl
  | a :: l => by
    rw [List.map_cons, List.lookup_cons, lookup_graph f d l]
    by_cases h : d = a
    · simp [h]
    · simp [h, beq_false_of_ne h]

/-- the collected map is the single-date function tabulated over the dates of the merged blocks -/
theorem collected_eq (p : Params α) (loc : Location α) (l : List (Int × Int)) :
    collected p loc l = (l.flatMap fun b => rangeDates b.1 b.2).map fun rd => (rd, prayerTimesDt p loc rd none) :=
  List.map_flatMap.symm

/-- an exact cover contains a date in one of its blocks iff the date is in the range -/
theorem cover_mem (e d : Int) : ∀ (l : List (Int × Int)) (s : Int), C14.CoversFrom e s l →
    ((∃ b ∈ l, b.1 ≤ d ∧ d ≤ b.2) ↔ s ≤ d ∧ d ≤ e)
  | [], s, h => by have : s = e + 1 := h; simp; omega
  | (a, b) :: l, s, ⟨h1, h2, h3, h4⟩ => by
    simp only [List.mem_cons, exists_eq_or_imp, cover_mem e d l _ h4]
    omega

theorem partition_mem (s e d : Int) (k : Nat) :
    (∃ b ∈ partition s e k, b.1 ≤ d ∧ d ≤ b.2) ↔ s ≤ d ∧ d ≤ e := by
  by_cases hse : s ≤ e
  · exact cover_mem e d _ s (C14.partition_cover s e k hse)
  -- an empty range: the block (s, e) itself, which holds no date, or (k ≥ 2) no block at all
  · by_cases hk : k < 2
    · simp [partition, hk]
    · rw [C14.partition_empty s e k (by omega) (by omega)]; simp; omega

/-- **C15, end to end**: for every parameter set, location, range (also an empty one), worker
    count k and EVERY schedule of the fan-in protocol that runs to the end of the collector's loop
    without a worker panicking, the collected map answers every date exactly as the sequential
    range function does - the single-date result for dates in the range, nothing for any other
    date.  (A worker panics exactly when a date of its block makes the single-date function panic;
    the sequential function then panics on that date too, and `thread::scope` re-raises the
    worker's panic after the collector has ended - `panic_is_flagged`, `no_deadlock` and
    `schedule_bound` cover those schedules: no hang, and no map is returned.) -/
theorem parallel_eq_sequential (p : Params α) (loc : Location α) (s e : Int) (k : Nat)
    (as : List BAct) (st : BState (Int × Int))
    (h : bRun (bInit (partition s e k)) as = some st) (hd : st.done = true) (hnp : st.panicked = false) (d : Int) :
    (collected p loc st.merged).lookup d = (C14.rngModel p loc s e).lookup d := by
  -- both maps tabulate the single-date function; their key sets are the dates of the merged blocks,
  -- which are the blocks of the partition, and the dates of the range
  rw [collected_eq, C14.rngModel, lookup_graph, lookup_graph]
  simp only [List.mem_flatMap, C14.rangeDates_mem, (done_perm h hd hnp).mem_iff, partition_mem]

/-- arrival order does not change the number of entries: the collected map is as long as the blocks'
    results appended in partition order -/
theorem collected_length (p : Params α) (loc : Location α) (s e : Int) (k : Nat)
    (as : List BAct) (st : BState (Int × Int))
    (h : bRun (bInit (partition s e k)) as = some st) (hd : st.done = true) (hnp : st.panicked = false) :
    (collected p loc st.merged).length = (collected p loc (partition s e k)).length :=
  ((done_perm h hd hnp).flatMap_right _).length_eq

end EndToEnd

-- non-vacuity: a complete schedule for two partitions that interleaves the collector with the workers
example : (bRun (bInit [1, 2]) [.spawn, .send 0, .recv, .spawn, .dropTx, .send 0, .recv, .close]).map
    (fun s => (s.merged, s.done)) = some ([1, 2], true) := by decide
-- and one in which the second worker overtakes the first
example : (bRun (bInit [1, 2]) [.spawn, .spawn, .send 1, .dropTx, .recv, .send 0, .recv, .close]).map
    (fun s => (s.merged, s.done)) = some ([2, 1], true) := by decide

-- and one in which the first worker panics: the collector still ends, with the other worker's result
-- only, and the state is flagged (the caller sees the panic, not this partial map)
example : (bRun (bInit [1, 2]) [.spawn, .spawn, .die 0, .dropTx, .send 0, .recv, .close]).map
    (fun s => (s.merged, s.done, s.panicked)) = some ([2], true, true) := by decide

end IPT.C15
