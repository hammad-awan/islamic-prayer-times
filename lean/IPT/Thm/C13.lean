import IPT.Real.Consts
import IPT.Model.Hours
import IPT.Lemmas.Civil
import Mathlib.Tactic.Linarith
import Mathlib.Tactic.Ring
import Mathlib.Tactic.IntervalCases
/-
  C13 — prayer times vary smoothly from one day to the next (the calendar part).
  Over ℝ: for every proleptic-Gregorian date after the 1582 reform the Julian Day computed by
  JulianDay::new is the civil day number plus a constant (minus the zone offset), so consecutive
  civil dates — across month ends, year ends and leap days — are exactly one day apart, and
  JulianDay::sub/add land on the Julian Day of the stepped date.  Plus the right-ascension wrap:
  the interpolation deltas are those of the unwrapped (lifted) sequence.  The smoothness of the
  ephemeris itself (second differences of VSOP87) is astronomical: decided by the falsifier.
-/
namespace IPT.C13
open IPT

theorem floor_intCast_div (Y : ℤ) (n : ℤ) (hn : 0 < n) : ⌊(Y : ℝ) / (n : ℝ)⌋ = Y / n := by
  rw [Int.floor_div_cast_of_nonneg hn.le, Int.floor_intCast]

/-- a well-formed date of the Gregorian calendar proper -/
def GregorianDate (dt : Date) : Prop :=
  1 ≤ dt.m ∧ dt.m ≤ 12 ∧ 1 ≤ dt.d ∧ dt.d ≤ 31 ∧
  (dt.y > 1582 ∨ (dt.y = 1582 ∧ (dt.m > 10 ∨ (dt.m = 10 ∧ dt.d > 15))))

/-- the integer Julian Day Number the code's floor expressions add up to: Meeus' formula on the
    year Y and month M that count January and February as months 13 and 14 of the year before -/
def jdnCode (dt : Date) : ℤ :=
  let Y := if dt.m ≤ 2 then dt.y - 1 else dt.y
  let M := if dt.m ≤ 2 then dt.m + 12 else dt.m
  2 - Y / 100 + Y / 100 / 4 + 1461 * (Y + 4716) / 4 + 306001 * (M + 1) / 10000 + dt.d - 1524

theorem yearTerm (Y : ℤ) :
    2 - Y / 100 + Y / 100 / 4 + 1461 * (Y + 4716) / 4 = daysBeforeYear (Y + 1) + 1722521 := by
  have h1 : Y / 100 / 4 = Y / 400 := by omega
  have h2 : 1461 * (Y + 4716) / 4 = 365 * Y + Y / 4 + 1722519 := by omega
  simp only [daysBeforeYear, h1, h2]; omega

/-- the month term ⌊30.6001 (M + 1)⌋ against the civil month table `(367 m − 362)/12`: both count
    the days from 1 March, 428 resp. 61 apart -/
theorem monthTerm (m : ℤ) (h1 : 1 ≤ m) (h12 : m ≤ 12) :
    306001 * ((if m ≤ 2 then m + 12 else m) + 1) / 10000 = (367 * m - 362) / 12 + if m ≤ 2 then 428 else 61 := by
  interval_cases m <;> rfl

theorem jdnCode_eq_rd (dt : Date) (h1 : 1 ≤ dt.m) (h12 : dt.m ≤ 12) : jdnCode dt = toRD dt + 1721425 := by
  simp only [jdnCode, yearTerm, monthTerm dt.m h1 h12, toRD, daysBeforeMonth]
  split
  · rw [Int.sub_add_cancel]; omega
  · rw [CivilLemmas.daysBeforeYear_succ]; split <;> omega

/-- **JulianDay::new = civil day number + 1721424.5 − gmt/24** for every Gregorian date, over ℝ -/
theorem jd_eq_rd (dt : Date) (gmt : ℝ) (h : GregorianDate dt) :
    jdValue dt gmt = (toRD dt : ℝ) + 1721424.5 - gmt / 24 := by
  obtain ⟨m1, m12, _, _, hy⟩ := h
  have hj := congrArg (Int.cast : ℤ → ℝ) (jdnCode_eq_rd dt m1 m12)
  have hy1 : ¬ dt.y < 1 := by omega
  -- the shifted year and month are integers
  have hY : (if dt.m ≤ 2 then (dt.y : ℝ) - 1.0 else dt.y) = ((if dt.m ≤ 2 then dt.y - 1 else dt.y : ℤ) : ℝ) := by
    split <;> norm_num
  have hM : (if dt.m ≤ 2 then (dt.m : ℝ) + 12.0 else dt.m) = ((if dt.m ≤ 2 then dt.m + 12 else dt.m : ℤ) : ℝ) := by
    split <;> norm_num
  simp only [jdValue, if_neg hy1, if_pos hy, sc_ofInt, sc_floor, hY, hM]
  simp only [jdnCode] at hj
  generalize (if dt.m ≤ 2 then dt.y - 1 else dt.y) = Y at hj ⊢
  generalize (if dt.m ≤ 2 then dt.m + 12 else dt.m) = M at hj ⊢
  -- each floor of the code is an integer division
  have f1 : ⌊(Y : ℝ) / 100.0⌋ = Y / 100 := by
    rw [← floor_intCast_div Y 100 (by norm_num)]; norm_num
  have f2 : ⌊((Y / 100 : ℤ) : ℝ) / 4.0⌋ = Y / 100 / 4 := by
    rw [← floor_intCast_div (Y / 100) 4 (by norm_num)]; norm_num
  have f3 : ⌊(365.25 : ℝ) * ((Y : ℝ) + 4716.0)⌋ = 1461 * (Y + 4716) / 4 := by
    rw [← floor_intCast_div (1461 * (Y + 4716)) 4 (by norm_num)]; congr 1; push_cast; norm_num; ring
  have f4 : ⌊(30.6001 : ℝ) * ((M : ℝ) + 1.0)⌋ = 306001 * (M + 1) / 10000 := by
    rw [← floor_intCast_div (306001 * (M + 1)) 10000 (by norm_num)]; congr 1; push_cast; norm_num; ring
  rw [f1, f2, f3, f4]
  push_cast at hj
  norm_num at hj ⊢
  linarith

/-- **consecutive civil dates are exactly one Julian day apart**, whatever month end, year end or
    leap day lies between them; and i days apart for any i — this is what makes JulianDay::sub/add
    (value ∓ i) the Julian Day of the stepped date -/
theorem jd_sub_add (dt dt' : Date) (gmt : ℝ) (i : ℤ) (h : GregorianDate dt) (h' : GregorianDate dt')
    (hstep : toRD dt' = toRD dt + i) : jdValue dt' gmt = jdValue dt gmt + i := by
  rw [jd_eq_rd dt gmt h, jd_eq_rd dt' gmt h', hstep]; push_cast; ring

/-- the zone offset enters only here, linearly: d more hours of offset = d/24 day earlier (used by C20) -/
theorem jd_gmt_linear (dt : Date) (g d : ℝ) (h : GregorianDate dt) :
    jdValue dt (g + d) = jdValue dt g - d / 24 := by
  rw [jd_eq_rd dt _ h, jd_eq_rd dt _ h]; ring

/-- **right-ascension wrap**: if prev, cur, next are the reductions into [0,360) of an unwrapped
    sequence P < C < N with daily steps in (0°, 10°) and C itself in [0,360), the interpolation
    deltas are those of the unwrapped sequence.  False of the code as first found (`prev_ra = 0.`):
    then `Gen.raWrapPrev` is the constant 0 and this theorem does not check. -/
theorem ra_wrap_lift (P C N : ℝ) (hC0 : 0 ≤ C) (hC1 : C < 360)
    (hp0 : 0 < C - P) (hp1 : C - P < 10) (hn0 : 0 < N - C) (hn1 : N - C < 10) :
    raInterpDeltas (if P < 0 then P + 360 else P) C (if 360 ≤ N then N - 360 else N) = (N - P, N + P - 2 * C) := by
  simp only [raInterpDeltas, Gen.raWrapNext, Gen.raWrapPrev, sc_ltb, c_RA_WRAP_HI, c_RA_WRAP_LO, c_TWO_PI_DEG, lit_two,
    Bool.and_eq_true, decide_eq_true_eq]
  by_cases hP : P < 0 <;> by_cases hN : 360 ≤ N <;> simp only [hP, hN, if_true, if_false]
  · exfalso; linarith
  · have a : ¬ (350 < C ∧ N < 10) := fun h => by linarith [h.1, h.2]
    have b : 350 < P + 360 ∧ C < 10 := ⟨by linarith, by linarith⟩
    simp only [a, b, if_false]; ext <;> simp
  · have a : 350 < C ∧ N - 360 < 10 := ⟨by linarith, by linarith⟩
    have b : ¬ (350 < P ∧ C < 10) := fun h => by linarith [h.1, h.2]
    simp only [a, b, if_false]; ext <;> simp
  · have a : ¬ (350 < C ∧ N < 10) := fun h => by linarith [h.1, h.2]
    have b : ¬ (350 < P ∧ C < 10) := fun h => by linarith [h.1, h.2]
    simp only [a, b, if_false]

/-- 1583-01-01 as a day number -/
def rd1583 : Int := 577814

-- non-vacuity of `ra_wrap_lift`: the three shapes of the wrap - before it (P = −0.5: yesterday's RA is
-- 359.5), after it (N = 360.5: tomorrow's is 0.5) and away from it - meet the hypotheses
example : raInterpDeltas (359.5 : ℝ) 0.4 1.3 = (1.3 - (-0.5), 1.3 + (-0.5) - 2 * 0.4) := by
  have := ra_wrap_lift (-0.5) 0.4 1.3 (by norm_num) (by norm_num) (by norm_num) (by norm_num) (by norm_num) (by norm_num)
  norm_num at this ⊢; exact this
example : raInterpDeltas (358.5 : ℝ) 359.5 0.5 = (360.5 - 358.5, 360.5 + 358.5 - 2 * 359.5) := by
  have := ra_wrap_lift 358.5 359.5 360.5 (by norm_num) (by norm_num) (by norm_num) (by norm_num) (by norm_num) (by norm_num)
  norm_num at this ⊢; exact this

theorem rd1583_eq : toRD ⟨1583, 1, 1⟩ = rd1583 := by decide

/-- every day number from 1583-01-01 on denotes a Gregorian date (valid month and day, after the reform) -/
theorem fromRD_gregorian (rd : Int) (h : rd1583 ≤ rd) : GregorianDate (fromRD rd) := by
  obtain ⟨m1, m12, d1, d31, _, hy⟩ := CivilLemmas.fromRD_valid rd
  refine ⟨m1, m12, d1, d31, Or.inl ?_⟩
  -- a year up to 1582 would have ended before 1583-01-01
  have h1 := (CivilLemmas.yearOfRD_spec rd).2
  have h2 := CivilLemmas.yearStart_mono (yearOfRD rd + 1) 1583
  rw [rd1583_eq] at h2
  unfold rd1583 at h h2
  rw [hy]; omega

/-- **the Julian Day the model (and the code) attaches to a day number is that day number plus a
    constant**: JD.new rd gmt = rd + 1721424.5 − gmt/24 for every day from 1583-01-01 on -/
theorem jd_new_eq_rd (rd : Int) (gmt : ℝ) (h : rd1583 ≤ rd) :
    (JD.new rd gmt).value = (rd : ℝ) + 1721424.5 - gmt / 24 := by
  simp only [JD.new]
  rw [jd_eq_rd _ gmt (fromRD_gregorian rd h), (CivilLemmas.fromRD_valid rd).2.2.2.2.1]

/-- so stepping a Julian Day by whole days (JulianDay::sub / add: value ∓ i, date ∓ i days) lands on
    the Julian Day of the stepped date — what the nearest-good-day search (C09) relies on -/
theorem jd_sub_is_jd_of_date (rd : Int) (gmt : ℝ) (i : ℕ) (h : rd1583 ≤ rd - i) :
    ((JD.new rd gmt).sub i).value = (JD.new (rd - i) gmt).value ∧ ((JD.new rd gmt).sub i).rd = rd - i ∧
    ((JD.new rd gmt).add i).value = (JD.new (rd + i) gmt).value ∧ ((JD.new rd gmt).add i).rd = rd + i := by
  have h1 : rd1583 ≤ rd := by omega
  have h2 : rd1583 ≤ rd + i := by omega
  refine ⟨?_, rfl, ?_, rfl⟩
  · simp only [JD.sub, sc_ofInt]
    rw [jd_new_eq_rd rd gmt h1, jd_new_eq_rd (rd - i) gmt h]; push_cast; ring
  · simp only [JD.add, sc_ofInt]
    rw [jd_new_eq_rd rd gmt h1, jd_new_eq_rd (rd + i) gmt h2]; push_cast; ring

-- non-vacuity: leap-day and year-end neighbours are Gregorian dates one day-number apart
example : GregorianDate ⟨2024, 2, 29⟩ ∧ GregorianDate ⟨2024, 3, 1⟩ ∧ toRD ⟨2024, 3, 1⟩ = toRD ⟨2024, 2, 29⟩ + 1 := by
  unfold GregorianDate; decide
example : GregorianDate ⟨2023, 12, 31⟩ ∧ GregorianDate ⟨2024, 1, 1⟩ ∧ toRD ⟨2024, 1, 1⟩ = toRD ⟨2023, 12, 31⟩ + 1 := by
  unfold GregorianDate; decide

end IPT.C13
