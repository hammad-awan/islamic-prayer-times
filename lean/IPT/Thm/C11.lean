import IPT.Lemmas.Round
import IPT.Lemmas.Times
/-
  C11 — rounding follows the selected policy exactly.  Proved over ℝ (the ideal semantics of
  hour_to_time / round_secs): for EVERY real hour the result is the stated function of the
  unrounded h:m:s.  Thresholds (30, 1) and the set of prayers that round under Special/Aggressive
  are re-read from hours.rs by the translator.  Float gap: on doubles within one ulp of a
  second/minute boundary the code and the ideal function may differ (DESIGN §3.3).
-/
namespace IPT.C11
open IPT IPT.RoundLemmas

/-- total minutes of a non-negative hour -/
noncomputable def totMin (x : ℝ) : ℤ := ⌊60 * x⌋
/-- seconds within the minute, 0..59 -/
noncomputable def secOf (x : ℝ) : ℤ := ⌊3600 * x⌋ - 60 * ⌊60 * x⌋

/-- the clock reading of a count of minutes since midnight (wrapping at 24 h) and a second -/
def clock (M S : ℤ) : HMS := ⟨((M / 60) % 24).toNat, (M % 60).toNat, S.toNat⟩

/-- the five prayers (Imsaak is not passed to hour_to_time: it is computed as Fajr) -/
theorem rounded_prayers :
    (Gen.roundedPrayers .Fajr && Gen.roundedPrayers .Dhuhr && Gen.roundedPrayers .Asr &&
     Gen.roundedPrayers .Maghrib && Gen.roundedPrayers .Isha) = true ∧
    Gen.roundedPrayers .Shurooq = false ∧ Gen.roundedPrayers .Imsaak = false := by decide

/-- **the stated function**: what each mode does to the unrounded (M minutes, S seconds) -/
def specTime (r : Round) (pr : Prayer) (M S : ℤ) : HMS :=
  match r with
  | .None => clock M S
  | .NormalRounding => clock (if 30 ≤ S then M + 1 else M) 0
  | .SpecialRounding => if Gen.roundedPrayers pr then clock (if 30 ≤ S then M + 1 else M) 0 else clock M 0
  | .AggressiveRounding => if Gen.roundedPrayers pr then clock (if 1 ≤ S then M + 1 else M) 0 else clock M 0

theorem clock_valid (M S : ℤ) (hM : 0 ≤ M) (hS0 : 0 ≤ S) (hS : S ≤ 59) :
    (clock M S).h < 24 ∧ (clock M S).m < 60 ∧ (clock M S).s < 60 := by
  simp only [clock]; omega

/-- `NaiveTime::from_hms_opt` accepts the fields of a non-negative hour `y` with a second `s` in 0..59;
    `as u32` saturates, but no field comes near the bound: the hour may be any size -/
theorem hmsOpt_fields (y s : ℝ) (S : ℤ) (hy : 0 ≤ y) (hs : ⌊s⌋ = S) (hS0 : 0 ≤ S) (hS : S ≤ 59) :
    hmsOpt (Sc.toU32 (if Sc.leb (Gen.HRS_PER_DAY : ℝ) y then rem24 y else y)) (Sc.toU32 (fracMin y)) (Sc.toU32 s) =
      .ok (clock (totMin y) S) := by
  rw [hour_toU32 y hy, minute_field, toU32_of_small s S hs hS0 (by omega)]
  exact if_pos (clock_valid _ S (Int.floor_nonneg.mpr (by positivity)) hS0 hS)

theorem drop_fields (y : ℝ) (hy : 0 ≤ y) :
    hmsOpt (Sc.toU32 (if Sc.leb (Gen.HRS_PER_DAY : ℝ) y then rem24 y else y)) (Sc.toU32 (fracMin y)) (Sc.toU32 (0.0 : ℝ)) =
      .ok (clock (totMin y) 0) :=
  hmsOpt_fields y 0.0 0 hy (by simp [lit_zero]) le_rfl (by norm_num)

/-- `round_secs` with an integer threshold `c` looks only at the whole second `S` -/
theorem round_fields (x sec cap : ℝ) (c S : ℤ) (hx : 0 ≤ x) (hc : cap = c) (hS : ⌊sec⌋ = S) :
    (let hms := roundSecs x sec cap
     hmsOpt (Sc.toU32 (if Sc.leb (Gen.HRS_PER_DAY : ℝ) hms.1 then rem24 hms.1 else hms.1)) (Sc.toU32 hms.2.1)
       (Sc.toU32 hms.2.2)) = .ok (clock (if c ≤ S then totMin x + 1 else totMin x) 0) := by
  have hiff : Sc.leb cap sec = true ↔ c ≤ S := by rw [sc_leb, decide_eq_true_eq, hc, ← Int.le_floor, hS]
  have carry : totMin (x + 1.0 / Gen.MIN_SEC_PER_HR_MIN) = totMin x + 1 := by
    rw [totMin, lit_one, c_MIN_SEC, mul_add, show (60 : ℝ) * (1 / 60) = ((1 : ℤ) : ℝ) by norm_num, Int.floor_add_intCast]
    rfl
  by_cases hcs : c ≤ S <;> simp only [roundSecs, hiff, hcs, if_true, if_false]
  · rw [← carry]; exact drop_fields _ (by rw [lit_one, c_MIN_SEC]; positivity)
  · exact drop_fields x hx

/-- conversion of a non-negative hour (after the wrap loop) -/
theorem convert_real (p : Params ℝ) (pr : Prayer) (x : ℝ) (h0 : 0 ≤ x) :
    convertHour p pr x = .ok (specTime p.round pr (totMin x) (secOf x)) := by
  obtain ⟨hS, hS0, hS59⟩ := second_field x
  have r30 := round_fields x _ Gen.DEF_ROUND_SEC 30 _ h0 (by rw [c_DEF_ROUND_SEC]; norm_num) hS
  have r1 := round_fields x _ Gen.AGGRESSIVE_ROUND_SEC 1 _ h0 (by rw [c_AGGRESSIVE_ROUND_SEC]; norm_num) hS
  unfold convertHour
  cases p.round <;> simp only [roundAct, specTime]
  · exact hmsOpt_fields x _ _ h0 hS hS0 hS59
  · exact r30
  · by_cases hp : Gen.roundedPrayers pr = true <;> simp only [hp, ↓reduceIte]
    exacts [r30, drop_fields x h0]
  · by_cases hp : Gen.roundedPrayers pr = true <;> simp only [hp, ↓reduceIte]
    exacts [r1, drop_fields x h0]

/-- `convert_real` for hours below the bound of a `u32`, which no field needs -/
theorem convert_spec (p : Params ℝ) (pr : Prayer) (x : ℝ) (h0 : 0 ≤ x) (h1 : x < 3999999999) :
    convertHour p pr x =
      .ok (specTime p.round pr (totMin x) (secOf x)) :=
  convert_real p pr x h0

/-- **C11 (and the ℝ half of C07)**: for every real hour and minute offset the conversion
    succeeds — the wrap loop terminates within its fuel, h < 24, m < 60, s < 60 — and yields the
    stated function of the unrounded time `x` = hour + offset wrapped into the day. -/
theorem hourToTime_spec (p : Params ℝ) (pr : Prayer) (hour : ℝ)
    (hlo : -2400000 ≤ hour + p.minutes pr / 60) (hhi : hour + p.minutes pr / 60 < 3999999999) :
    ∃ k : ℕ, 0 ≤ hour + p.minutes pr / 60 + 24 * k ∧
      (0 ≤ hour + p.minutes pr / 60 → k = 0) ∧
      (hour + p.minutes pr / 60 < 0 → hour + p.minutes pr / 60 + 24 * k < 24) ∧
      hourToTime p pr hour = .ok (specTime p.round pr (totMin (hour + p.minutes pr / 60 + 24 * k))
        (secOf (hour + p.minutes pr / 60 + 24 * k))) := by
  obtain ⟨k, e, h0, hk⟩ := wrapNeg_spec wrapFuel (hour + p.minutes pr / 60)
    (by simp only [wrapFuel]; push_cast; linarith)
  refine ⟨k, h0, hk.1, hk.2, ?_⟩
  simp only [hourToTime, c_MIN_SEC, e]
  exact convert_real p pr _ h0

/-- corollary used by C07: every conversion succeeds -/
theorem hourToTime_ok (p : Params ℝ) (pr : Prayer) (hour : ℝ)
    (hlo : -2400000 ≤ hour + p.minutes pr / 60) (hhi : hour + p.minutes pr / 60 < 3999999999) :
    ∃ t, hourToTime p pr hour = .ok t := by
  obtain ⟨k, _, _, _, h⟩ := hourToTime_spec p pr hour hlo hhi
  exact ⟨_, h⟩

/-- no rounding keeps the truncated second -/
theorem none_is_truncation (pr : Prayer) (M S : ℤ) : specTime .None pr M S = clock M S := rfl

/-- a rounded time never moves by a minute or more: it is the minute of the unrounded time or the next one -/
theorem moves_lt_minute (r : Round) (pr : Prayer) (M S : ℤ) (hr : r ≠ .None) :
    specTime r pr M S = clock M 0 ∨ specTime r pr M S = clock (M + 1) 0 := by
  cases r <;> simp only [specTime]
  · exact absurd rfl hr
  all_goals split_ifs <;> simp only [true_or, or_true]

/-- carries propagate through the hour and through midnight: 23:59 + 1 minute is 00:00 -/
theorem carry_midnight : clock (23 * 60 + 59 + 1) 0 = ⟨0, 0, 0⟩ ∧ clock (7 * 60 + 59 + 1) 0 = ⟨8, 0, 0⟩ := by
  decide

/-- **validity and the extreme flag are unaffected by rounding**, for every scalar type: an
    invalid entry stays invalid, a valid one keeps exactly its flag (the conversion only produces
    the clock reading) -/
theorem rounding_keeps_validity_and_flag {α : Type} [Add α] [Sub α] [Mul α] [Div α] [Neg α] [OfScientific α] [Sc α]
    (p : Params α) (pr : Prayer) (o : Option (PH α)) (r : Option PT) (h : optTime p pr o = .ok r) :
    (o = none ↔ r = none) ∧ (∀ ph t, o = some ph → r = some t → t.extreme = ph.extreme) := by
  rcases (TimesLemmas.optTime_ok_iff p pr o r).mp h with ⟨rfl, rfl⟩ | ⟨ph, t, rfl, -, rfl⟩
  · simp
  · exact ⟨by simp, fun _ _ e1 e2 => by cases e1; cases e2; rfl⟩

-- non-vacuity: 23:59:45 under the three rounding modes for Isha and Shurooq
example : specTime .NormalRounding .Isha 1439 45 = ⟨0, 0, 0⟩ := by decide
example : specTime .SpecialRounding .Shurooq 1439 45 = ⟨23, 59, 0⟩ := by decide
example : specTime .AggressiveRounding .Isha 1439 1 = ⟨0, 0, 0⟩ := by decide
example : specTime .None .Isha 1439 45 = ⟨23, 59, 45⟩ := by decide

end IPT.C11
