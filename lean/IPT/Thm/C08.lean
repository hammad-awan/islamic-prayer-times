import IPT.Lemmas.ExtLat
import IPT.Lemmas.Times
/-
  C08 — fallback policies change only what they name and flag exactly what they replace.
  All theorems hold for EVERY scalar type α (no arithmetic law is used): they are statements
  about which slot each policy writes and which flag it sets, over the dispatch table, the
  `always` list and the interval-exclusion list that the translator re-reads from ext_lat.rs.
  "Conventional" = the result under ExtremeLatitudeMethod::None (which still runs the interval pass).
-/
namespace IPT.C08
open IPT IPT.ExtLatLemmas IPT.TimesLemmas
variable {α : Type} [Add α] [Sub α] [Mul α] [Div α] [Neg α] [OfScientific α] [Sc α]

/-- the result under policy None, same parameters otherwise -/
def noPolicy (p : Params α) : Params α := { p with policy := .None }

def conventional (p : Params α) (hours : Hours α) (env : Env α) : Except Panic (PHours α) :=
  adjForExtLat (noPolicy p) hours env

theorem conventional_eq (p : Params α) (hours : Hours α) (env : Env α) :
    conventional p hours env = adjForInt (noPolicy p) hours.toPH :=
  adjForExtLat_none _ _ _ rfl

/-- **the conventional result carries no extreme flag** (all six entries): what "unchanged" means in
    the theorems below therefore includes "unflagged" -/
theorem conventional_unflagged (p : Params α) (hours : Hours α) (env : Env α) (c : PHours α)
    (hc : conventional p hours env = .ok c) :
    flagOf c.fajr = false ∧ flagOf c.shur = false ∧ flagOf c.dhuhr = false ∧
    flagOf c.asr = false ∧ flagOf c.magh = false ∧ flagOf c.isha = false :=
  adjForInt_conv_unflagged _ _ _ (conventional_eq p hours env ▸ hc)

/-- the policies restricted to Fajr and Isha: all but None and the two "all prayers" variants -/
def FajrIshaOnly (pol : Policy α) : Prop := pol.isNearLatAll = false ∧ pol.isGoodDayAll = false

/-- **a policy restricted to Fajr and Isha never changes Shurooq, Dhuhr, Asr or Maghrib**
    (value and flag), whatever the validity pattern, parameters and environment -/
theorem fajrIsha_policy_keeps_others (p : Params α) (hours : Hours α) (env : Env α) (r : PHours α)
    (hp : FajrIshaOnly p.policy) (hr : adjForExtLat p hours env = .ok r) :
    r.shur = hours.shur.map PH.conv ∧ r.dhuhr = hours.dhuhr.map PH.conv ∧
    r.asr = hours.asr.map PH.conv ∧ r.magh = hours.magh.map PH.conv := by
  obtain ⟨h1, hh1, hr⟩ := (adjForExtLat_ok_iff ..).mp hr
  rw [adjForInt_eq] at hr
  rw [← Except.ok.inj hr]
  exact applyPolicy_others p _ h1 env hp.1 hp.2 hh1

/-- same statement relative to the conventional result: the four entries coincide with it -/
theorem fajrIsha_policy_others_conventional (p : Params α) (hours : Hours α) (env : Env α) (r c : PHours α)
    (hp : FajrIshaOnly p.policy) (hr : adjForExtLat p hours env = .ok r) (hc : conventional p hours env = .ok c) :
    r.shur = c.shur ∧ r.dhuhr = c.dhuhr ∧ r.asr = c.asr ∧ r.magh = c.magh := by
  have a := fajrIsha_policy_keeps_others p hours env r hp hr
  have b := fajrIsha_policy_keeps_others (noPolicy p) hours env c ⟨rfl, rfl⟩ hc
  exact ⟨a.1.trans b.1.symm, a.2.1.trans b.2.1.symm, a.2.2.1.trans b.2.2.1.symm, a.2.2.2.trans b.2.2.2.symm⟩

theorem flag_read_total : Gen.intFlagRead = .mapOrFalse := by decide

/-- the hypothesis under which the two interval-consuming policies are quantified
    (angle-based methods only): a policy excluded from the interval pass has no intervals set -/
def ExclNoIntervals (p : Params α) : Prop :=
  Gen.intExcluded p.policy = true → nonZero p.intFajr = false ∧ nonZero p.intIsha = false

/-- under that hypothesis the interval pass does under the policy what it does conventionally -/
theorem intPass_noPolicy (p : Params α) (hex : ExclNoIntervals p) (h : PHours α) : intPass (noPolicy p) h = intPass p h := by
  have hn : Gen.intExcluded (noPolicy p).policy = false := rfl
  unfold intPass
  rw [hn]
  cases he : Gen.intExcluded p.policy
  · rfl
  · simp [hex he, intOut, show (noPolicy p).intFajr = p.intFajr from rfl, show (noPolicy p).intIsha = p.intIsha from rfl]

/-- the two results side by side: the policy's hours and the computed hours through the same interval pass -/
theorem both_results (p : Params α) (hours : Hours α) (env : Env α) (r c : PHours α) (hex : ExclNoIntervals p)
    (hr : adjForExtLat p hours env = .ok r) (hc : conventional p hours env = .ok c) :
    ∃ h1, applyPolicy p hours.toPH env = .ok h1 ∧ r = intPass p h1 ∧ c = intPass p hours.toPH := by
  obtain ⟨h1, hh1, hr⟩ := (adjForExtLat_ok_iff ..).mp hr
  rw [conventional_eq, adjForInt_eq, intPass_noPolicy p hex] at hc
  rw [adjForInt_eq] at hr
  exact ⟨h1, hh1, (Except.ok.inj hr).symm, (Except.ok.inj hc).symm⟩

/-- **an "only if invalid" policy returns every valid angle-based Fajr/Isha exactly as the
    conventional calculation does — same value, unflagged** (`…_partial`: "valid" is the validity of
    the six computed hours; see `invalidOnly_interval_flag_witness` for the one case where the
    full-strength reading — validity of the conventional result — fails) -/
theorem invalidOnly_keeps_valid_partial (p : Params α) (hours : Hours α) (env : Env α) (r c : PHours α)
    (hinv : isInvalidOnly p.policy = true) (hex : ExclNoIntervals p)
    (hr : adjForExtLat p hours env = .ok r) (hc : conventional p hours env = .ok c) :
    (hours.fajr.isSome → r.fajr = c.fajr) ∧ (hours.isha.isSome → r.isha = c.isha) := by
  obtain ⟨h1, hh1, rfl, rfl⟩ := both_results p hours env r c hex hr hc
  obtain ⟨kf, ki⟩ := applyPolicy_invalidOnly p _ _ env hinv hh1
  obtain ⟨hA, hB, _⟩ := invalidOnly_flags p.policy hinv
  obtain ⟨os, _, _, om⟩ := applyPolicy_others p _ h1 env hA hB hh1
  constructor <;> intro hs <;> dsimp only [intPass]
  · rw [kf (by simpa [Hours.toPH] using hs), os]
  · rw [ki (by simpa [Hours.toPH] using hs), om]

/-- The full-strength reading of the second clause ("every *conventionally* valid Fajr/Isha is
    returned unchanged and unflagged") is FALSE of the code, for every scalar type: with an
    interval-defined Isha (e.g. UmmAlQurra / FixedIsha: Maghrib + 90 min) whose unused angle-based
    Isha is invalid, an only-if-invalid policy returns the conventional clock time but flagged
    extreme.  Replayed on the implementation: known_findings.json (C08, open). -/
theorem invalidOnly_interval_flag_witness (p : Params α) (f s d a m : α) (env : Env α)
    (hp : p.policy = .SeventhOfNightFajrIshaInvalid)
    (hzF : nonZero p.intFajr = false) (hnz : nonZero p.intIsha = true) :
    ∃ r c v, adjForExtLat p ⟨some f, some s, some d, some a, some m, none⟩ env = .ok r ∧
      conventional p ⟨some f, some s, some d, some a, some m, none⟩ env = .ok c ∧
      c.isha = some ⟨v, false⟩ ∧ r.isha = some ⟨v, true⟩ := by
  refine ⟨⟨some ⟨f, false⟩, some ⟨s, false⟩, some ⟨d, false⟩, some ⟨a, false⟩, some ⟨m, false⟩,
            some ⟨m + p.intIsha / Gen.MIN_SEC_PER_HR_MIN, true⟩⟩,
          ⟨some ⟨f, false⟩, some ⟨s, false⟩, some ⟨d, false⟩, some ⟨a, false⟩, some ⟨m, false⟩,
            some ⟨m + p.intIsha / Gen.MIN_SEC_PER_HR_MIN, false⟩⟩,
          m + p.intIsha / Gen.MIN_SEC_PER_HR_MIN, ?_, ?_, rfl, rfl⟩
  · simp [adjForExtLat, applyPolicy, canAdj, hp, Policy.isNone, PHours.hasInv, Hours.toPH, Gen.dispatch,
      adjSevHalf, Policy.isSevHalfAlways, Policy.isHalfInvalid, adjForInt_eq, intPass, intOut, Gen.intExcluded, hzF, hnz,
      flagOf, PH.conv, PH.ext]
  · simp [conventional, noPolicy, adjForExtLat, applyPolicy, canAdj, Policy.isNone, Hours.toPH, adjForInt_eq, intPass, intOut,
      Gen.intExcluded, hzF, hnz, flagOf, PH.conv]

/-- on a day where all six conventional hours exist, an only-if-invalid policy is the identity -/
theorem invalidOnly_identity_when_all_valid (p : Params α) (hours : Hours α) (env : Env α)
    (hinv : isInvalidOnly p.policy = true) (hex : ExclNoIntervals p)
    (hall : hours.toPH.hasInv = false) :
    adjForExtLat p hours env = conventional p hours env := by
  have hap : applyPolicy p hours.toPH env = .ok hours.toPH := by
    simp [applyPolicy, canAdj, hall, (invalidOnly_flags p.policy hinv).2.2.2.1]
  rw [conventional_eq, adjForInt_eq (noPolicy p), intPass_noPolicy p hex]
  unfold adjForExtLat
  rw [hap]
  exact adjForInt_eq p _

/-- **in every result, a time not flagged extreme equals the conventional time** (all six hours,
    all 15 policies).  Contrapositive: a time that differs from the conventional one is flagged
    extreme.  Hypotheses: the interval-consuming policies are used with angle-based methods
    (`ExclNoIntervals`, as the property quantifies), and - only when a Fajr (Isha) INTERVAL is set -
    under nearest-latitude "all prayers" the substitute latitude has a Fajr (Isha): the interval
    pass copies that entry's flag.  With the named methods this concerns the Isha of UmmAlQurra and
    FixedIsha only, whose angle-0 Isha exists wherever the Sun sets; for angle-based methods the
    theorem needs no such hypothesis (a substitute latitude of 60 degrees without a June Fajr is
    covered). -/
theorem unflagged_is_conventional (p : Params α) (hours : Hours α) (env : Env α) (r c : PHours α)
    (hex : ExclNoIntervals p)
    (hNLf : nonZero p.intFajr = true → ∀ l, p.policy = .NearestLatitudeAllPrayersAlways l → (env.nearLatHours l).fajr.isSome = true)
    (hNLi : nonZero p.intIsha = true → ∀ l, p.policy = .NearestLatitudeAllPrayersAlways l → (env.nearLatHours l).isha.isSome = true)
    (hr : adjForExtLat p hours env = .ok r) (hc : conventional p hours env = .ok c) :
    UnflAll r c := by
  obtain ⟨h1, hh1, rfl, rfl⟩ := both_results p hours env r c hex hr hc
  have hu := applyPolicy_unfl p _ _ env hh1
  -- where the pass rewrites a twilight it copies that twilight's flag: an unflagged outcome means the
  -- policy had not replaced the twilight, hence (shape of the policy output) not the anchor either
  have hs := applyPolicy_shape p _ h1 env hh1
  dsimp only [UnflAll, intPass]
  refine ⟨intOut_unfl _ _ _ _ _ _ hu.1 (flagOf_conv _) fun hk hf => ?_, hu.2.1, hu.2.2.1, hu.2.2.2.1, hu.2.2.2.2.1,
    intOut_unfl _ _ _ _ _ _ hu.2.2.2.2.2 (flagOf_conv _) fun hk hf => ?_⟩
  · rcases hs with ho | ⟨hfl, _⟩
    · exact ho.1
    · rw [hfl (hNLf (by simpa using (Bool.or_eq_false_iff.mp hk).2))] at hf; cases hf
  · rcases hs with ho | ⟨_, hfl⟩
    · exact ho.2.2.2
    · rw [hfl (hNLi (by simpa using (Bool.or_eq_false_iff.mp hk).2))] at hf; cases hf

/-! ### the seventh entry: Imsaak -/

/-- **an Imsaak that is not flagged extreme did not come from the fallback**: it is the time of the
    Fajr of the Imsaak-adjusted parameters (Fajr angle + Imsaak angle, resp. the interval forms),
    and that Fajr is itself not flagged.  (Before the `fix:` commit that flags the fallback this
    was false: at 48 N on the June solstice with the MWL angles the tool printed Imsaak = Fajr
    - 1.5 min, unflagged, although the Sun never reaches 19.5 degrees.) -/
theorem imsaak_unflagged_not_fallback (p : Params α) (run : Params α → Except Panic (PHours α)) (t : PT)
    (h : imsaakOf p run = .ok (some t)) (hf : t.extreme = false) :
    ∃ h1, run (imsaakParams1 p) = .ok h1 ∧ fajrExtreme h1 = false ∧
      optTime (imsaakParams1 p) .Fajr h1.fajr = .ok (some t) := by
  obtain ⟨h1, hr1, ⟨he, _, ht⟩ | ⟨_, h2, _, ht⟩⟩ := imsaakOf_ok _ _ _ h
  · exact ⟨h1, hr1, he, ht⟩
  · -- the fallback sets the flag
    obtain ⟨_ | t0, _, ht⟩ := (flagExtreme_ok_iff ..).mp ht
    · cases ht
    · rw [Option.some.inj ht] at hf; cases hf

/-- **… and therefore equals the conventional time**: with the policy layer of the real code, the
    unflagged Fajr of the adjusted parameters is the conventional Fajr at those parameters
    (`unflagged_is_conventional`), so an unflagged Imsaak is the clock time of the conventional
    Fajr at the sum angle - under every policy -/
theorem imsaak_unflagged_is_conventional (p : Params α) (hours : Hours α) (env : Env α) (c : PHours α) (t : PT)
    (run : Params α → Except Panic (PHours α))
    (hrun : run (imsaakParams1 p) = adjForExtLat (imsaakParams1 p) hours env)
    (hex : ExclNoIntervals (imsaakParams1 p))
    (hNLf : nonZero (imsaakParams1 p).intFajr = true → ∀ l, (imsaakParams1 p).policy = .NearestLatitudeAllPrayersAlways l → (env.nearLatHours l).fajr.isSome = true)
    (hNLi : nonZero (imsaakParams1 p).intIsha = true → ∀ l, (imsaakParams1 p).policy = .NearestLatitudeAllPrayersAlways l → (env.nearLatHours l).isha.isSome = true)
    (hc : conventional (imsaakParams1 p) hours env = .ok c)
    (h : imsaakOf p run = .ok (some t)) (hf : t.extreme = false) :
    optTime (imsaakParams1 p) .Fajr c.fajr = .ok (some t) := by
  obtain ⟨h1, hr1, he, ht⟩ := imsaak_unflagged_not_fallback p run t h hf
  rw [hrun] at hr1
  have hu := (unflagged_is_conventional (imsaakParams1 p) hours env h1 c hex hNLf hNLi hr1 hc).1
  -- that Fajr is present and unflagged, hence the conventional one
  obtain ⟨_, hn⟩ | ⟨ph, tm, hfj, htm, hpt⟩ := (optTime_ok_iff ..).mp ht
  · cases hn
  · rw [fajrExtreme_eq, hfj] at he
    obtain ⟨v, e⟩ := ph
    obtain rfl : e = false := he
    exact (optTime_ok_iff ..).mpr (.inr ⟨_, tm, hu v hfj, htm, hpt⟩)

-- non-vacuity: the six policies and the angle-based parameter sets meet the hypotheses - in the
-- case the hypothesis is about (an interval-excluded policy with an angle-based method)
example : isInvalidOnly (Policy.HalfOfNightFajrIshaInvalid : Policy α) = true := rfl
example : ExclNoIntervals ({ (paramsNew .Mwl : Params Float) with policy := .HalfOfNightFajrIshaInvalid }) := by
  intro _; constructor <;> simp [paramsNew, nonZero, Gen.methodRow] <;> rfl

-- non-vacuity: the 12 policies the theorem speaks about satisfy `FajrIshaOnly`
example : FajrIshaOnly (Policy.SeventhOfNightFajrIshaInvalid : Policy α) := ⟨rfl, rfl⟩
example (l : α) : FajrIshaOnly (Policy.NearestLatitudeFajrIshaAlways l) := ⟨rfl, rfl⟩
example : ¬ FajrIshaOnly (Policy.NearestGoodDayAllPrayersAlways : Policy α) := by simp [FajrIshaOnly, Policy.isGoodDayAll]

end IPT.C08
