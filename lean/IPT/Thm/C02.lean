import IPT.Thm.C05
import IPT.Thm.C06
import IPT.Thm.C12
import IPT.Thm.C13
import IPT.Lemmas.Angle
/-
  C02 — Shurooq and Maghrib are sunrise and sunset of the Sun's upper limb (PARTIAL).
  Proved: the altitude constant is −0.8333° within 10⁻³; the first approximation of rise/set is the
  hour angle at which the Sun's centre (under the date's declination) is exactly at that altitude,
  a positive fraction of a day before resp. after transit; weather reaches only Shurooq/Maghrib,
  never their validity, and absent weather is the default weather (every scalar type).
  NOT proved: the size of the Newton correction and of the refraction term (needs bounds on the
  ephemeris envelope), and agreement with the sky — decided by the falsifier (0.05°).
-/
namespace IPT.C02
open IPT IPT.TrigLemmas Real

/-- h₀: geometric altitude of the Sun's centre when its upper limb is on the refracted horizon -/
theorem center_of_sun_angle : |(Gen.CENTER_OF_SUN_ANGLE : ℝ) + 0.8333| ≤ 1 / 1000 := by
  rw [c_CENTER_OF_SUN_ANGLE, abs_le]; constructor <;> norm_num

/-- **first approximation**: the rise/set offset is H₀/360 of a day with
    sin φ sin δ + cos φ cos δ cos H₀ = sin h₀, 0 < H₀ < 180° -/
theorem riseset_first_approx_altitude (lat dec adj : ℝ)
    (hk : Real.cos (toRadians lat) * Real.cos (toRadians dec) ≠ 0)
    (h : shurMaghM0Adj lat dec = some adj)
    (hr : (Real.sin (toRadians (Gen.CENTER_OF_SUN_ANGLE : ℝ)) - Real.sin (toRadians lat) * Real.sin (toRadians dec)) /
      (Real.cos (toRadians lat) * Real.cos (toRadians dec)) < 1)
    (hr' : -1 < (Real.sin (toRadians (Gen.CENTER_OF_SUN_ANGLE : ℝ)) - Real.sin (toRadians lat) * Real.sin (toRadians dec)) /
      (Real.cos (toRadians lat) * Real.cos (toRadians dec))) :
    Real.sin (toRadians lat) * Real.sin (toRadians dec) +
      Real.cos (toRadians lat) * Real.cos (toRadians dec) * Real.cos (toRadians (360 * adj)) =
        Real.sin (toRadians (Gen.CENTER_OF_SUN_ANGLE : ℝ)) ∧ 0 < adj ∧ adj < 1 / 2 := by
  obtain ⟨p0, p1⟩ := C05.riseset_offset_pos_partial lat dec adj h hr hr'
  rw [C05.riseset_hourangle lat dec adj h hr hr']
  exact ⟨altitude_eq hk hr'.le hr.le, p0, p1⟩

/-- **the day fractions the rise and set are solved from lie in the requested date** (arithmetic
    half; `riseset_start_from_day_fractions` below binds it to the model): the approximate
    fractions of the day at which it evaluates the Sun (and from which the one-step correction
    starts) are the mean-transit fraction minus / plus the semi-diurnal arc, each reduced into
    [0, 1) on its own - they differ from m₀ ∓ H₀/360 by a whole number of days and lie within the
    civil day.  (Seed C02f took them from the already reduced transit fraction without their own
    reduction: fractions outside [0,1), i.e. the previous day's sunrise.) -/
theorem riseset_fractions_of_the_day (m0 adj : ℝ) :
    (0 ≤ capAngle1 (m0 - adj) ∧ capAngle1 (m0 - adj) < 1 ∧ ∃ k : ℤ, capAngle1 (m0 - adj) = m0 - adj - k) ∧
    (0 ≤ capAngle1 (m0 + adj) ∧ capAngle1 (m0 + adj) < 1 ∧ ∃ k : ℤ, capAngle1 (m0 + adj) = m0 + adj - k) := by
  obtain ⟨a1, a2, a3⟩ := IPT.AngleLemmas.capAngle1_spec (m0 - adj)
  obtain ⟨b1, b2, b3⟩ := IPT.AngleLemmas.capAngle1_spec (m0 + adj)
  exact ⟨⟨a1, a2, ⌊m0 - adj⌋, a3⟩, ⟨b1, b2, ⌊m0 + adj⌋, b3⟩⟩

variable {α : Type} [Add α] [Sub α] [Mul α] [Div α] [Neg α] [OfScientific α] [Sc α]

/-- **the rise and set the model solves for start from those day fractions**: when the rise/set hour
    angle exists, Shurooq (Maghrib) is `shurMagh` evaluated at `capAngle1 (m₀ − H₀/360)`
    (`capAngle1 (m₀ + H₀/360)`) and at the hour angle interpolated at that same fraction - the
    fractions `riseset_fractions_of_the_day` places in [0, 1).  Every scalar type.  (Dropping the two
    reductions from the model, as seed C02f did to the code, makes this theorem false.) -/
theorem riseset_start_from_day_fractions (t : TopAstroDay α) (w : Weather α) (adj : α)
    (h : shurMaghM0Adj t.coords.lat t.cur.dec = some adj) :
    let m0 := (t.cur.ra - t.coords.lon - t.cur.sid) / Gen.TWO_PI_DEG
    let rd := raInterpDeltas t.prev.ra t.cur.ra t.next.ra
    let dd := decInterpDeltas t.prev.dec t.cur.dec t.next.dec
    (shurDhuhrMagh t w).1 = some (shurMagh t.coords.lat t.cur.dec t.cur.dra w dd (capAngle1 (m0 - adj))
      (hourAngle t.cur.sid t.cur.ra t.coords.lon rd (capAngle1 (m0 - adj)))) ∧
    (shurDhuhrMagh t w).2.2 = some (shurMagh t.coords.lat t.cur.dec t.cur.dra w dd (capAngle1 (m0 + adj))
      (hourAngle t.cur.sid t.cur.ra t.coords.lon rd (capAngle1 (m0 + adj)))) := by
  simp [shurDhuhrMagh, h]

/-- **weather never moves a time that is not Shurooq or Maghrib, nor changes whether they exist** —
    every scalar type (that absent weather is the default weather is Thm C12 `weather_none_is_default`) -/
theorem weather_scope (p : Params α) (t : TopAstroDay α) (w w' : Weather α) :
    (getHours p t w').fajr = (getHours p t w).fajr ∧ (getHours p t w').dhuhr = (getHours p t w).dhuhr ∧
    (getHours p t w').asr = (getHours p t w).asr ∧ (getHours p t w').isha = (getHours p t w).isha ∧
    (getHours p t w').shur.isSome = (getHours p t w).shur.isSome ∧
    (getHours p t w').magh.isSome = (getHours p t w).magh.isSome := by
  obtain ⟨a, b, c, d⟩ := C12.weather_only_riseset p t w w'
  obtain ⟨e, f⟩ := C12.weather_keeps_validity p t w w'
  exact ⟨a, b, c, d, e, f⟩

/-! ### The weather effect on rise/set, exactly -/

/-- the factor by which weather scales the refraction: pressure/1010 · 283/(273+T) -/
noncomputable def weatherFactor (w : Weather ℝ) : ℝ := w.pressure / 1010.0 * (283.0 / (273.0 + w.temperature))

/-- the refraction (degrees) at unit factor: a function of the altitude only -/
noncomputable def refr1 (alt : ℝ) : ℝ :=
  1.02 / (toDegrees (Sc.tan (toRadians (alt + (10.3 / (alt + 5.11))))) + 0.0019279) / 60.0

/-- the geometric altitude `get_shur_magh` evaluates at day fraction m and hour angle H (weather-free) -/
noncomputable def altAt (lat dec dra : ℝ) (dd : ℝ × ℝ) (m H : ℝ) : ℝ :=
  toDegrees (Sc.asin (Sc.sin (toRadians lat) * Sc.sin (toRadians (dec + m * (dd.1 + dd.2 * m) / 2.0))
    + Sc.cos (toRadians lat) * Sc.cos (toRadians (dec + m * (dd.1 + dd.2 * m) / 2.0)) * Sc.cos (toRadians H - dra)))

/-- the denominator of the correction step: 360 · cos δ · cos φ · sin H -/
noncomputable def denomAt (lat dec dra : ℝ) (dd : ℝ × ℝ) (m H : ℝ) : ℝ :=
  Gen.TWO_PI_DEG * Sc.cos (toRadians (dec + m * (dd.1 + dd.2 * m) / 2.0)) * Sc.cos (toRadians lat) *
    Sc.sin (toRadians H - dra)

theorem refraction_factor (w : Weather ℝ) (alt : ℝ) : refraction w alt = weatherFactor w * refr1 alt := by
  simp only [refraction, weatherFactor, refr1]; rw [mul_div_assoc]

theorem weatherFactor_eq (w : Weather ℝ) : weatherFactor w = w.pressure / 1010 * (283 / (273 + w.temperature)) := by
  unfold weatherFactor; norm_num

/-- weather enters only through the refraction term, which multiplies by pressure/1010 · 283/(273+T) -/
theorem refraction_is_only_use (w : Weather ℝ) (alt : ℝ) :
    refraction w alt = w.pressure / 1010 * (283 / (273 + w.temperature)) *
      (1.02 / (toDegrees (Real.tan (toRadians (alt + 10.3 / (alt + 5.11)))) + 0.0019279)) / 60 := by
  rw [refraction_factor, weatherFactor_eq, refr1, sc_tan, show (60.0 : ℝ) = 60 by norm_num, mul_div_assoc]

/-- `get_shur_magh` in closed form: 24·(m + (alt₀ + μ(w)·ρ(alt₀) − h₀)/D) - weather enters through the
    single factor μ(w), linearly -/
theorem shurMagh_closed (lat dec dra : ℝ) (w : Weather ℝ) (dd : ℝ × ℝ) (m H : ℝ) :
    shurMagh lat dec dra w dd m H = Gen.HRS_PER_DAY * (m +
      (altAt lat dec dra dd m H + weatherFactor w * refr1 (altAt lat dec dra dd m H) - Gen.CENTER_OF_SUN_ANGLE) /
        denomAt lat dec dra dd m H) := by
  simp only [shurMagh, altAt, denomAt, refraction_factor]

/-- **the exact weather effect**: the rise (set) time under weather w differs from the one under w′ by
    24·(μ(w) − μ(w′))·ρ(alt₀)/D hours, where alt₀ and D do not depend on the weather - for every
    latitude, declination, day fraction and hour angle -/
theorem weather_shift_exact (lat dec dra : ℝ) (w w' : Weather ℝ) (dd : ℝ × ℝ) (m H : ℝ) :
    shurMagh lat dec dra w dd m H - shurMagh lat dec dra w' dd m H =
      24 * ((weatherFactor w - weatherFactor w') * refr1 (altAt lat dec dra dd m H) / denomAt lat dec dra dd m H) := by
  rw [shurMagh_closed, shurMagh_closed, c_HRS_PER_DAY]; ring

/-- over the valid pressure (100..1050 mbar) and temperature (−90..57 °C) ranges the factor lies in
    [283/3333, 49525/30805] ⊂ (0.0849, 1.6078); the default weather (1010 mbar, 14 °C) gives 283/287 -/
theorem weatherFactor_range (w : Weather ℝ) (hp : 100 ≤ w.pressure ∧ w.pressure ≤ 1050)
    (ht : -90 ≤ w.temperature ∧ w.temperature ≤ 57) :
    283 / 3333 ≤ weatherFactor w ∧ weatherFactor w ≤ 1050 / 1010 * (283 / 183) := by
  obtain ⟨p1, p2⟩ := hp
  obtain ⟨t1, t2⟩ := ht
  have hd : (0 : ℝ) < 273 + w.temperature := by linarith
  rw [weatherFactor_eq]
  -- both factors at their least (100 mbar, 57 °C), resp. at their greatest (1050 mbar, −90 °C)
  constructor
  · exact le_of_eq_of_le (by norm_num) (mul_le_mul (div_le_div_of_nonneg_right p1 (by norm_num))
      (div_le_div_of_nonneg_left (by norm_num) hd (by linarith : 273 + w.temperature ≤ 330)) (by norm_num) (by positivity))
  · exact mul_le_mul (div_le_div_of_nonneg_right p2 (by norm_num))
      (div_le_div_of_nonneg_left (by norm_num) (by norm_num) (by linarith)) (by positivity) (by norm_num)

theorem weatherFactor_default : weatherFactor (defaultWeather : Weather ℝ) = 283 / 287 := by
  simp only [weatherFactor, defaultWeather, Gen.DEF_PRESSURE, Gen.DEF_TEMPERATURE]; norm_num

/-- **"weather moves these two times by seconds only", conditionally**: for two weathers in the valid
    ranges, if the unit refraction at the evaluated altitude is at most ρ degrees and the correction
    denominator is at least D > 0 in absolute value, the rise (set) time moves by at most
    24·1.53·ρ/D hours.  (At the horizon ρ ≈ 0.57° and D = 360·cos δ·cos φ·|sin H| ≥ 360·0.917·0.5·0.6
    for |lat| ≤ 60 away from the existence boundary, which gives ≈ 0.21 h·ρ... the two envelope
    quantities are what no theorem here bounds; the falsifier measures the shift itself, < 60 s.) -/
theorem weather_shift_bound (lat dec dra : ℝ) (w w' : Weather ℝ) (dd : ℝ × ℝ) (m H ρ D : ℝ)
    (hp : 100 ≤ w.pressure ∧ w.pressure ≤ 1050) (ht : -90 ≤ w.temperature ∧ w.temperature ≤ 57)
    (hp' : 100 ≤ w'.pressure ∧ w'.pressure ≤ 1050) (ht' : -90 ≤ w'.temperature ∧ w'.temperature ≤ 57)
    (hρ : |refr1 (altAt lat dec dra dd m H)| ≤ ρ) (hD0 : 0 < D) (hD : D ≤ |denomAt lat dec dra dd m H|) :
    |shurMagh lat dec dra w dd m H - shurMagh lat dec dra w' dd m H| ≤ 24 * (1.53 * ρ / D) := by
  obtain ⟨a1, a2⟩ := weatherFactor_range w hp ht
  obtain ⟨b1, b2⟩ := weatherFactor_range w' hp' ht'
  have hμ : |weatherFactor w - weatherFactor w'| ≤ 1.53 := (abs_sub_le_of_le_of_le a1 a2 b1 b2).trans (by norm_num)
  rw [weather_shift_exact, abs_mul, abs_div, abs_mul, abs_of_pos (by norm_num : (0 : ℝ) < 24)]
  exact mul_le_mul_of_nonneg_left (div_le_div₀ (mul_nonneg (by norm_num) ((abs_nonneg _).trans hρ))
    (mul_le_mul hμ hρ (abs_nonneg _) (by norm_num)) hD0 hD) (by norm_num)

-- non-vacuity: the default weather and the corners of the valid box meet the range hypotheses
example : (100 : ℝ) ≤ (⟨1010, 10⟩ : Weather ℝ).pressure ∧ (⟨1010, 10⟩ : Weather ℝ).pressure ≤ 1050 := by
  constructor <;> norm_num


/-! ### Shurooq before, Maghrib after the same day's noon: exact offsets -/

/-- **the signed offsets of Shurooq and Maghrib from Dhuhr, exactly**: with m_s, m_m the day
    fractions the rise and set are solved at, S − 24·m_s and M − 24·m_m their one-step corrections
    (hours) and H_d the hour angle at the mean-transit fraction (Dhuhr's own correction),
    `S − D = 24·(−adj + k₁) + (S − 24·m_s) + 24·H_d/360` and
    `M − D = 24·(+adj + k₂) + (M − 24·m_m) + 24·H_d/360` for whole numbers of days k₁, k₂ -
    the semi-diurnal arc adj = H₀/360 before resp. after noon, plus the corrections, modulo days. -/
theorem riseset_offsets_exact (t : TopAstroDay ℝ) (w : Weather ℝ) (adj : ℝ)
    (h : shurMaghM0Adj t.coords.lat t.cur.dec = some adj) :
    let m0 := (t.cur.ra - t.coords.lon - t.cur.sid) / (Gen.TWO_PI_DEG : ℝ)
    let rd := raInterpDeltas t.prev.ra t.cur.ra t.next.ra
    let Hd := hourAngle t.cur.sid t.cur.ra t.coords.lon rd (capAngle1 m0)
    let D := (shurDhuhrMagh t w).2.1
    ∃ (S M : ℝ) (k1 k2 : ℤ), (shurDhuhrMagh t w).1 = some S ∧ (shurDhuhrMagh t w).2.2 = some M ∧
      S - D = 24 * (-adj + k1) + (S - 24 * capAngle1 (m0 - adj)) + 24 * (Hd / 360) ∧
      M - D = 24 * (adj + k2) + (M - 24 * capAngle1 (m0 + adj)) + 24 * (Hd / 360) := by
  intro m0 rd Hd D
  obtain ⟨hs, hm⟩ := riseset_start_from_day_fractions t w adj h
  obtain ⟨_, _, a3⟩ := IPT.AngleLemmas.capAngle1_spec (m0 - adj)
  obtain ⟨_, _, b3⟩ := IPT.AngleLemmas.capAngle1_spec (m0 + adj)
  obtain ⟨_, _, c3⟩ := IPT.AngleLemmas.capAngle1_spec m0
  have hD : D = 24 * (capAngle1 m0 - Hd / 360) := by
    simp only [D, shurDhuhrMagh, Hd, m0, rd, c_HRS_PER_DAY, c_TWO_PI_DEG]
  refine ⟨_, _, ⌊m0⌋ - ⌊m0 - adj⌋, ⌊m0⌋ - ⌊m0 + adj⌋, hs, hm, ?_, ?_⟩
  · rw [hD, a3, c3]; push_cast; ring
  · rw [hD, b3, c3]; push_cast; ring

/-- the arithmetic of `riseset_sides_of_noon`: an offset that is ∓24·adj plus 24 times a correction
    smaller than adj keeps the sign of ∓adj -/
theorem sides_of_noon_arith {adj S M D cs cm H k1 k2 : ℝ}
    (o1 : S - D = 24 * (-adj + k1) + (S - 24 * cs) + 24 * (H / 360))
    (o2 : M - D = 24 * (adj + k2) + (M - 24 * cm) + 24 * (H / 360))
    (hcs : |(S - 24 * cs) / 24 + H / 360| < adj) (hcm : |(M - 24 * cm) / 24 + H / 360| < adj) :
    -(48 * adj) < S - D - 24 * k1 ∧ S - D - 24 * k1 < 0 ∧ 0 < M - D - 24 * k2 ∧ M - D - 24 * k2 < 48 * adj := by
  rw [abs_lt] at hcs hcm
  refine ⟨?_, ?_, ?_, ?_⟩
  · linear_combination 24 * hcs.1 - o1
  · linear_combination 24 * hcs.2 + o1
  · linear_combination 24 * hcm.1 - o2
  · linear_combination 24 * hcm.2 + o2

/-- **Shurooq lies before and Maghrib after the same day's solar noon** whenever the corrections
    are smaller than the semi-diurnal arc: if |(S − 24·m_s)/24 + H_d/360| < adj (likewise for
    Maghrib) then, modulo whole days, S − D ∈ (−48·adj, 0) and M − D ∈ (0, 48·adj).  (adj ≤ 1/2
    always - `shurMaghM0Adj` is arccos/360 of a number in [−1,1] - so these are offsets of less
    than a day; the size of the corrections is what no theorem here bounds.) -/
theorem riseset_sides_of_noon (t : TopAstroDay ℝ) (w : Weather ℝ) (adj S M : ℝ)
    (h : shurMaghM0Adj t.coords.lat t.cur.dec = some adj)
    (hS : (shurDhuhrMagh t w).1 = some S) (hM : (shurDhuhrMagh t w).2.2 = some M)
    (hcs : |(S - 24 * capAngle1 ((t.cur.ra - t.coords.lon - t.cur.sid) / (Gen.TWO_PI_DEG : ℝ) - adj)) / 24 +
      hourAngle t.cur.sid t.cur.ra t.coords.lon (raInterpDeltas t.prev.ra t.cur.ra t.next.ra)
        (capAngle1 ((t.cur.ra - t.coords.lon - t.cur.sid) / (Gen.TWO_PI_DEG : ℝ))) / 360| < adj)
    (hcm : |(M - 24 * capAngle1 ((t.cur.ra - t.coords.lon - t.cur.sid) / (Gen.TWO_PI_DEG : ℝ) + adj)) / 24 +
      hourAngle t.cur.sid t.cur.ra t.coords.lon (raInterpDeltas t.prev.ra t.cur.ra t.next.ra)
        (capAngle1 ((t.cur.ra - t.coords.lon - t.cur.sid) / (Gen.TWO_PI_DEG : ℝ))) / 360| < adj) :
    ∃ k1 k2 : ℤ,
      -(48 * adj) < S - (shurDhuhrMagh t w).2.1 - 24 * k1 ∧ S - (shurDhuhrMagh t w).2.1 - 24 * k1 < 0 ∧
      0 < M - (shurDhuhrMagh t w).2.1 - 24 * k2 ∧ M - (shurDhuhrMagh t w).2.1 - 24 * k2 < 48 * adj := by
  obtain ⟨S', M', k1, k2, e1, e2, o1, o2⟩ := riseset_offsets_exact t w adj h
  cases hS.symm.trans e1
  cases hM.symm.trans e2
  exact ⟨k1, k2, sides_of_noon_arith o1 o2 hcs hcm⟩

-- non-vacuity of `riseset_offsets_exact`: on the equator at the equinox (φ = δ = 0) the rise/set hour
-- angle exists (cos H = sin h₀ has the solution H = arccos (sin h₀))
example : ∃ adj, shurMaghM0Adj (0 : ℝ) 0 = some adj := by
  have hz : toRadians (0 : ℝ) = 0 := by simp [toRadians]
  have h : (shurMaghM0Adj (0 : ℝ) 0).isSome = true := by
    rw [C06.riseset_valid_iff 0 0 (by rw [hz]; simp)]
    refine ⟨Real.arccos (Real.sin (toRadians (Gen.CENTER_OF_SUN_ANGLE : ℝ))), ?_⟩
    rw [hz, Real.cos_arccos (Real.neg_one_le_sin _) (Real.sin_le_one _)]
    simp
  exact Option.isSome_iff_exists.mp h

/-- the hour angles of this property interpolate the right ascension with the deltas of the
    unwrapped sequence (Thm C13 `ra_wrap_lift`, restated: this property depends on it) -/
theorem ra_wrap_lift (P C N : ℝ) (hC0 : 0 ≤ C) (hC1 : C < 360)
    (hp0 : 0 < C - P) (hp1 : C - P < 10) (hn0 : 0 < N - C) (hn1 : N - C < 10) :
    raInterpDeltas (if P < 0 then P + 360 else P) C (if 360 ≤ N then N - 360 else N) = (N - P, N + P - 2 * C) :=
  C13.ra_wrap_lift P C N hC0 hC1 hp0 hp1 hn0 hn1

end IPT.C02
