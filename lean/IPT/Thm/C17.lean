import IPT.Lemmas.Hijri
import IPT.Lemmas.Civil
/-
  C17 — Hijri conversion is the tabular Islamic calendar, day for day.
  Spec (independent of the code's search loops): the closed-form Reingold–Dershowitz inverse.
  Model: IPT/Model/Hijri.lean; comparison operators of the year loops and the leap rule are
  re-read from hijri_date.rs by the translator (Gen.yearBackCmp, Gen.yearFwdCmp, Gen.leapRule).
-/
namespace IPT.C17
open IPT IPT.HijriLemmas

/-- fixed-from-islamic (Calendrical Calculations), epoch 227015 = Friday 0622-07-19 proleptic Gregorian -/
def tabFixed (y m d : Int) : Int :=
  d + 29 * (m - 1) + (6 * m - 1) / 11 + (y - 1) * 354 + (3 + 11 * y) / 30 + 227015 - 1

/-- islamic-from-fixed: (astronomical year, month, day) -/
def tabDate (g : Int) : Int × Int × Int :=
  let y := (30 * (g - 227015) + 10646) / 10631
  let m := (11 * (g - tabFixed y 1 1) + 330) / 325
  (y, m, g - tabFixed y m 1 + 1)

/-- how the library reports an astronomical year: magnitude and before-Hijra flag (year 0 = 1 B.H.) -/
def reported (y : Int) : Int × Bool := if y ≤ 0 then (1 - y, true) else (y, false)

/-- length of month m of the (astronomical) tabular year y: 30/29 alternately, the twelfth 30 in leap years -/
def tabMonthLen (y m : Int) : Int :=
  if m = 12 then (if (11 * y + 14) % 30 < 11 then 30 else 29) else if m % 2 = 1 then 30 else 29

/-- the source has `<` in the backward year search, `>=` in the forward one, and the Euclidean
    leap rule.  False of the code as first found (`<=` and `(11*year).abs()`). -/
theorem source_shape : Gen.yearBackCmp = .lt ∧ Gen.yearFwdCmp = .ge ∧ Gen.leapRule = .remEuclid ∧
    Gen.HIJRI_EPOCH = 227015 := by decide

theorem gregAbsDate_eq_toRD (dt : Date) : gregAbsDate dt = toRD dt := by
  simp only [gregAbsDate, toRD, daysBeforeYear, ordinal]; omega

theorem tabFixed_first (y : Int) : tabFixed y 1 1 = yearStart y := by
  unfold tabFixed yearStart; omega

/-- `(6m - 1)/11`, the form Calendrical Calculations has, is the code's `m/2` on the twelve months -/
theorem tabFixed_eq (y d : Int) {m : Int} (h1 : 1 ≤ m) (h2 : m ≤ 12) :
    tabFixed y m d = yearStart y + (monthStart m + (d - 1)) := by
  have : (6 * m - 1) / 11 = m / 2 := by omega
  unfold tabFixed yearStart monthStart; omega

theorem tabDate_eq (g : Int) : tabDate g = (tabYear g, tabMonthOf (g - yearStart (tabYear g)),
    g - tabFixed (tabYear g) (tabMonthOf (g - yearStart (tabYear g))) 1 + 1) := by
  simp only [tabDate, tabFixed_first]; rfl

theorem tabMonthLen_bounds (y m : Int) : 29 ≤ tabMonthLen y m ∧ tabMonthLen y m ≤ 30 := by
  unfold tabMonthLen; split <;> split <;> decide

/-- month m ends where month m + 1 starts, the twelfth where the year ends -/
theorem monthStart_add_len (y m : Int) :
    monthStart m + tabMonthLen y m = if m = 12 then yearStart (y + 1) - yearStart y else monthStart (m + 1) := by
  unfold tabMonthLen
  split
  · subst m; rw [yearLen]; split <;> rfl
  · rw [monthStart_succ]

/-- every day number has a tabular date: month 1..12, day 1..length of the month -/
theorem tabDate_valid (g : Int) :
    1 ≤ (tabDate g).2.1 ∧ (tabDate g).2.1 ≤ 12 ∧ 1 ≤ (tabDate g).2.2 ∧
      (tabDate g).2.2 ≤ tabMonthLen (tabDate g).1 (tabDate g).2.1 := by
  have ⟨s1, s2⟩ := tabYear_spec g
  have hlen := (yearLen_bounds (tabYear g)).2
  obtain ⟨m1, m12, lo, hi⟩ := @tabMonthOf_spec (g - yearStart (tabYear g)) (by omega) (by omega)
  have hend := monthStart_add_len (tabYear g) (tabMonthOf (g - yearStart (tabYear g)))
  simp only [tabDate_eq, tabFixed_eq _ _ m1 m12]
  refine ⟨m1, m12, by omega, ?_⟩
  split at hend <;> omega

/-- **every tabular date is the date of its day number**: `tabDate (tabFixed y m d) = (y, m, d)` for
    month 1..12 and day 1..length of that month - with `round_trip` the tabular dates and the day
    numbers are in bijection (one-to-one AND onto) -/
theorem tabDate_tabFixed (y m d : Int) (hm1 : 1 ≤ m) (hm2 : m ≤ 12) (hd1 : 1 ≤ d) (hd2 : d ≤ tabMonthLen y m) :
    tabDate (tabFixed y m d) = (y, m, d) := by
  have hend := monthStart_add_len y m
  have ⟨l1, l2⟩ := yearLen_bounds y
  have h0 : 0 ≤ monthStart m := monthStart_mono hm1
  have h13 : monthStart (m + 1) ≤ 354 := monthStart_mono (b := 13) (by omega)
  -- the offset of the date lies in the span of year y, and there in the span of month m
  have hp : monthStart m + (d - 1) < yearStart (y + 1) - yearStart y ∧
      (monthStart m + (d - 1) < monthStart (m + 1) ∨ m = 12 ∧ monthStart m + (d - 1) ≤ 354) := by
    split at hend <;> omega
  rw [tabDate_eq, tabFixed_eq y d hm1 hm2, tabYear_unique (y := y) (by omega) (by omega),
    show yearStart y + (monthStart m + (d - 1)) - yearStart y = monthStart m + (d - 1) by omega,
    tabMonthOf_eq hm1 hm2 (by omega) hp.2, tabFixed_eq y 1 hm1 hm2]
  simp only [Prod.mk.injEq, true_and]; omega

/- `round_trip` holds by cancellation for any day number; `injective` below follows from it.  The converse
   is `tabDate_tabFixed` above. -/
/-- the tabular date determines the day: the mapping is one-to-one -/
theorem round_trip (g : Int) : tabFixed (tabDate g).1 (tabDate g).2.1 (tabDate g).2.2 = g := by
  simp only [tabDate, tabFixed]; omega

theorem injective (g g' : Int) (h : tabDate g = tabDate g') : g = g' := by
  rw [← round_trip g, ← round_trip g', h]

/-- **months have 30 and 29 days alternately** (odd months 30), months 1..11 -/
theorem month_lengths (y m : Int) (h1 : 1 ≤ m) (h2 : m ≤ 11) :
    tabFixed y (m + 1) 1 - tabFixed y m 1 = if m % 2 = 1 then 30 else 29 := by
  rw [tabFixed_eq y 1 h1 (by omega), tabFixed_eq y 1 (by omega) (by omega), monthStart_succ]; omega

/-- **the twelfth month has 30 days exactly in leap years, 29 otherwise**: the year has 355 or 354 days -/
theorem twelfth_month_and_year_length (y : Int) :
    tabFixed (y + 1) 1 1 - tabFixed y 12 1 = (if (11 * y + 14) % 30 < 11 then 30 else 29) ∧
    tabFixed (y + 1) 1 1 - tabFixed y 1 1 = (if (11 * y + 14) % 30 < 11 then 355 else 354) := by
  have h12 : tabFixed y 12 1 = tabFixed y 1 1 + 325 := by unfold tabFixed; omega
  rw [h12, tabFixed_first, tabFixed_first, ← Int.sub_sub, yearLen]
  exact ⟨by split <;> rfl, rfl⟩

/-- **11 leap years in every 30-year cycle** -/
theorem leap_years_per_cycle :
    ((List.range 30).filter fun (y : Nat) => decide ((11 * (y : Int) + 14) % 30 < 11)).length = 11 := by decide

/-- successive dates map to successive Hijri days: same month next day, or day 1 of the next
    month after day 29/30, or 1 Muharram after the 12th month — hence the map is one-to-one -/
theorem succ_day (g : Int) :
    let a := tabDate g
    let b := tabDate (g + 1)
    (b = (a.1, a.2.1, a.2.2 + 1)) ∨
    (b = (a.1, a.2.1 + 1, 1) ∧ (a.2.2 = 29 ∨ a.2.2 = 30)) ∨
    (b = (a.1 + 1, 1, 1) ∧ a.2.1 = 12 ∧ (a.2.2 = 29 ∨ a.2.2 = 30)) := by
  obtain ⟨m1, m12, d1, d2⟩ := tabDate_valid g
  have hg := round_trip g
  generalize tabDate g = a at *
  obtain ⟨y, m, d⟩ := a
  dsimp only at *
  subst hg
  -- the day after (y, m, d) is the valid date named in each case, and `tabDate` finds valid dates
  by_cases hd : d < tabMonthLen y m
  · left
    rw [← tabDate_tabFixed y m (d + 1) m1 m12 (by omega) (Int.add_one_le_of_lt hd)]
    congr 1; unfold tabFixed; omega
  · have hlen := tabMonthLen_bounds y m
    have hend := monthStart_add_len y m
    rw [tabFixed_eq y d m1 m12]
    by_cases h12 : m = 12
    · right; right
      refine ⟨?_, h12, by omega⟩
      rw [← tabDate_tabFixed (y + 1) 1 1 (by decide) (by decide) (by decide)
        (Int.le_trans (by decide) (tabMonthLen_bounds _ _).1), tabFixed_first]
      congr 1; rw [if_pos h12] at hend; omega
    · right; left
      refine ⟨?_, by omega⟩
      rw [← tabDate_tabFixed y (m + 1) 1 (by omega) (by omega) (by decide)
        (Int.le_trans (by decide) (tabMonthLen_bounds _ _).1), tabFixed_eq y 1 (by omega) (by omega)]
      congr 1; rw [if_neg h12] at hend; omega

theorem reported_eq (y : Int) : reported y = (if y ≤ 0 then -(y - 1) else y, decide (y ≤ 0)) := by
  unfold reported; split <;> simp <;> omega

/-- **C17**: for every date 0001-01-01..9999-12-31 the conversion is the tabular calendar -/
theorem hijri_eq_tabular (dt : Date) (h1 : 1 ≤ gregAbsDate dt) (h2 : gregAbsDate dt ≤ 3652059) :
    hijriOf dt = some
      { year := (reported (tabDate (gregAbsDate dt)).1).1
        month := (tabDate (gregAbsDate dt)).2.1
        day := (tabDate (gregAbsDate dt)).2.2
        preEpoch := (reported (tabDate (gregAbsDate dt)).1).2
        weekday := gregAbsDate dt % 7 + 1 } := by
  obtain ⟨hb, hf, hl, _⟩ := source_shape
  unfold hijriOf
  generalize gregAbsDate dt = g at *
  have ⟨s1, s2⟩ := tabYear_spec g
  obtain ⟨m1, m12, d1, d2⟩ := tabDate_valid g
  have := tabMonthLen_bounds (tabDate g).1 (tabDate g).2.1
  simp only [tabDate_eq] at *
  simp only [hijriYear_spec hb hf g h1 h2, monthVal_spec g _ hl s1 s2, reported_eq]
  -- the day of the month is in 1..30, so the u8 cast is the identity
  rw [hijriAbsDate_eq, ← tabFixed_eq _ 1 m1 m12, Int.emod_eq_of_lt (by omega) (by omega),
    Int.tmod_eq_emod_of_nonneg (by omega), Int.natAbs_of_nonneg (by omega)]

theorem hijriOf_props (dt : Date) (h1 : 1 ≤ gregAbsDate dt) (h2 : gregAbsDate dt ≤ 3652059) :
    ∃ h, hijriOf dt = some h ∧ h.monthOk = true ∧ 1 ≤ h.day ∧ h.day ≤ 30 ∧ 1 ≤ h.weekday ∧ h.weekday ≤ 7 ∧
      h.weekday = weekdayRD (toRD dt) + 1 := by
  obtain ⟨m1, m12, d1, d2⟩ := tabDate_valid (gregAbsDate dt)
  have := tabMonthLen_bounds (tabDate (gregAbsDate dt)).1 (tabDate (gregAbsDate dt)).2.1
  refine ⟨_, hijri_eq_tabular dt h1 h2, ?_⟩
  simp only [Hijri.monthOk, decide_eq_true_eq, weekdayRD, ← gregAbsDate_eq_toRD, and_true]
  omega

/-- month in 1..12 and day in 1..30: the accessors and Display (which unwrap
    HijriMonth::try_from / HijriDay::try_from) cannot panic; the loops do not run away -/
theorem no_panic (dt : Date) (h1 : 1 ≤ gregAbsDate dt) (h2 : gregAbsDate dt ≤ 3652059) :
    ∃ h, hijriOf dt = some h ∧ h.monthOk = true ∧ 1 ≤ h.day ∧ h.day ≤ 30 ∧ 1 ≤ h.weekday ∧ h.weekday ≤ 7 :=
  let ⟨h, e, a, b, c, d, f, _⟩ := hijriOf_props dt h1 h2
  ⟨h, e, a, b, c, d, f⟩

/-- the reported weekday (1 = Ahad/Sunday) is the civil weekday of the same date
    (day number 1 = Monday 0001-01-01, so day number mod 7 = 0 is a Sunday) -/
theorem weekday_civil (dt : Date) (h1 : 1 ≤ gregAbsDate dt) (h2 : gregAbsDate dt ≤ 3652059) :
    ∃ h, hijriOf dt = some h ∧ h.weekday = weekdayRD (toRD dt) + 1 :=
  let ⟨h, e, _, _, _, _, _, w⟩ := hijriOf_props dt h1 h2
  ⟨h, e, w⟩

/-- the range hypothesis of the theorems above, in calendar terms: every valid date (month 1..12, day
    within the month) of the years 1..9999 satisfies it -/
theorem valid_date_in_range (dt : Date) (hv : CivilLemmas.ValidDate dt) (h1 : 1 ≤ dt.y) (h2 : dt.y ≤ 9999) :
    1 ≤ gregAbsDate dt ∧ gregAbsDate dt ≤ 3652059 := by
  rw [gregAbsDate_eq_toRD]
  exact CivilLemmas.valid_date_range dt hv h1 h2

/-- **for every Gregorian date of the years 1 to 9999 the conversion succeeds with a month in 1..12, a
    day in 1..30 and a weekday in 1..7** (so no accessor and no printing can panic), and the weekday
    is the civil weekday of that date -/
theorem no_panic_valid (dt : Date) (hv : CivilLemmas.ValidDate dt) (h1 : 1 ≤ dt.y) (h2 : dt.y ≤ 9999) :
    ∃ h, hijriOf dt = some h ∧ h.monthOk = true ∧ 1 ≤ h.day ∧ h.day ≤ 30 ∧ 1 ≤ h.weekday ∧ h.weekday ≤ 7 ∧
      h.weekday = weekdayRD (toRD dt) + 1 :=
  let ⟨r1, r2⟩ := valid_date_in_range dt hv h1 h2
  hijriOf_props dt r1 r2

-- non-vacuity: 29 February 2024 and 31 December 9999 are such dates
example : CivilLemmas.ValidDate ⟨2024, 2, 29⟩ ∧ CivilLemmas.ValidDate ⟨9999, 12, 31⟩ := by
  constructor <;> simp [CivilLemmas.ValidDate, CivilLemmas.dim, CivilLemmas.dbm, isLeap] <;> decide

-- non-vacuity of `tabDate_tabFixed`: 30 Dhul Hijjah exists in the leap year 1445, not in 1446
example : tabMonthLen 1445 12 = 30 ∧ tabMonthLen 1446 12 = 29 ∧ tabDate (tabFixed 1445 12 30) = (1445, 12, 30) := by decide

-- non-vacuity: the epoch itself, a pre-epoch date, a modern date
example : hijriOf ⟨622, 7, 19⟩ = some ⟨1, 1, 1, false, 6⟩ := by decide +kernel
example : hijriOf ⟨1, 8, 8⟩ = some ⟨640, 1, 1, true, 4⟩ := by decide +kernel
example : tabDate 738521 = (1444, 6, 8) := by decide
example : 1 ≤ gregAbsDate ⟨2023, 1, 1⟩ ∧ gregAbsDate ⟨2023, 1, 1⟩ ≤ 3652059 := by decide

end IPT.C17
