import IPT.Thm.C03
import IPT.Thm.C04
import IPT.Lemmas.ExtLat
import IPT.Lemmas.Times
/-
  C05 — the daily schedule is complete and chronologically ordered.
  Seven entries: structural (a result is a record of seven; the correspondence asserts the key
  set of the real map).  Order of the conventionally computed times around Dhuhr: over ℝ.
  The links through Shurooq/Maghrib are at the level of first-approximation hour angles
  (`…_partial`: Shurooq < Dhuhr < Maghrib `riseset_offset_pos_partial`, Fajr ≤ Shurooq and Maghrib ≤
  Isha `twilight_outside_riseset_partial`, Asr < Maghrib `C04.asr_before_maghrib_first_approx_partial`;
  the Newton correction and refraction term are not bounded here).
-/
namespace IPT.C05
open IPT IPT.TrigLemmas IPT.HoursLemmas IPT.ExtLatLemmas IPT.TimesLemmas Real

/-- structural remark only: a result is a record of seven entries in `Prayer` order (that the seven
    entries of `prayerTimesDt` are the conversions of the six hours and of Imsaak is
    `C07.prayerTimesDt_entries`; the key set of the real map is asserted by the correspondence) -/
theorem seven_entries (d : DayTimes) :
    [d.imsaak, d.fajr, d.shur, d.dhuhr, d.asr, d.magh, d.isha].length = 7 := rfl

/-- **Fajr < Dhuhr < Isha strictly**, for non-negative depression angles up to 90° and the Sun
    not circumpolar-at-zenith (|φ-δ| < 90°) -/
theorem fajr_lt_dhuhr_lt_isha (angF angI lat dec dhuhr f i : ℝ)
    (hk : 0 < Real.cos (toRadians lat) * Real.cos (toRadians dec))
    (hu : |toRadians lat - toRadians dec| < Real.pi / 2)
    (haF : 0 ≤ angF) (haF' : angF ≤ 90) (haI : 0 ≤ angI) (haI' : angI ≤ 90)
    (hf : (fajrIsha angF angI lat dec dhuhr).1 = some f) (hi : (fajrIsha angF angI lat dec dhuhr).2 = some i) :
    f < dhuhr ∧ dhuhr < i := by
  obtain ⟨-, rfl⟩ := fajr_eq_some.mp hf
  obtain ⟨-, rfl⟩ := isha_eq_some.mp hi
  exact ⟨sub_lt_self _ (arcHours_pos (twilightCos_lt_one hk hu haF haF')),
    lt_add_of_pos_right _ (arcHours_pos (twilightCos_lt_one hk hu haI haI'))⟩

/-- **Asr < Isha strictly** (both after Dhuhr; the Asr altitude is positive, the Isha altitude is not) -/
theorem asr_lt_isha (ratio : AsrRatio) (angF angI lat dec dhuhr a i : ℝ)
    (hk : 0 < Real.cos (toRadians lat) * Real.cos (toRadians dec))
    (hu : |toRadians lat - toRadians dec| < Real.pi / 2)
    (haI : 0 ≤ angI) (haI' : angI ≤ 90)
    (ha : getAsr ratio lat dec dhuhr = some a) (hi : (fajrIsha angF angI lat dec dhuhr).2 = some i) : a < i := by
  obtain ⟨⟨-, wa⟩, rfl⟩ := getAsr_eq_some.mp ha
  obtain ⟨⟨wi, -⟩, rfl⟩ := isha_eq_some.mp hi
  exact add_lt_add_right (arcHours_strictAnti wi (twilightCos_lt_asrCos hk hu haI haI') wa) _

/-- Dhuhr < Asr (Thm C04 `asr_after_dhuhr`); Imsaak ≤ Fajr is Thm C03 `imsaak_le_fajr` -/
theorem dhuhr_lt_asr (ratio : AsrRatio) (lat dec dhuhr asr : ℝ)
    (hk : 0 < Real.cos (toRadians lat) * Real.cos (toRadians dec))
    (hu : |toRadians lat - toRadians dec| < Real.pi / 2)
    (h : getAsr ratio lat dec dhuhr = some asr) : dhuhr < asr :=
  C04.asr_after_dhuhr ratio lat dec dhuhr asr hk hu h

/-- Fajr lies within 180° of hour angle, i.e. 12 h, before Dhuhr (Isha and Asr after it:
    `C07.twilight_bounds`, `C07.asr_bounds`) -/
theorem within_12h (angF angI lat dec dhuhr f : ℝ) (hf : (fajrIsha angF angI lat dec dhuhr).1 = some f) :
    dhuhr - f ≤ 180 * Gen.DEGREES_TO_10_BASE := by
  obtain ⟨-, rfl⟩ := fajr_eq_some.mp hf
  rw [sub_sub_cancel]
  exact arcHours_le _

/-- arithmetic remark: with a positive interval, Maghrib + interval is after Maghrib and Shurooq −
    interval before Shurooq (that an interval-defined Isha/Fajr IS that expression: `C12.isha_fajr_interval`) -/
theorem interval_order (m s int : ℝ) (h : 0 < int) :
    m < m + int / Gen.MIN_SEC_PER_HR_MIN ∧ s - int / Gen.MIN_SEC_PER_HR_MIN < s := by
  rw [c_MIN_SEC]
  have := div_pos h (by norm_num : (0 : ℝ) < 60)
  exact ⟨lt_add_of_pos_right _ this, sub_lt_self _ this⟩

/-- the rise/set hour angle in degrees is 360 times the day-fraction offset: 360·adj = arccos(r₀)° whenever −1 < r₀ < 1 -/
theorem riseset_hourangle (lat dec adj : ℝ) (h : shurMaghM0Adj lat dec = some adj)
    (hr : (Real.sin (toRadians (Gen.CENTER_OF_SUN_ANGLE : ℝ)) - Real.sin (toRadians lat) * Real.sin (toRadians dec)) /
      (Real.cos (toRadians lat) * Real.cos (toRadians dec)) < 1)
    (hr' : -1 < (Real.sin (toRadians (Gen.CENTER_OF_SUN_ANGLE : ℝ)) - Real.sin (toRadians lat) * Real.sin (toRadians dec)) /
      (Real.cos (toRadians lat) * Real.cos (toRadians dec))) :
    360 * adj = toDegrees (Real.arccos ((Real.sin (toRadians (Gen.CENTER_OF_SUN_ANGLE : ℝ)) - Real.sin (toRadians lat) * Real.sin (toRadians dec)) /
      (Real.cos (toRadians lat) * Real.cos (toRadians dec)))) := by
  rw [riseCos_eq] at hr' ⊢
  exact shurMaghM0Adj_arc h hr'

/-- Shurooq before and Maghrib after transit, at the level of the first approximation: the
    rise/set offset H₀/360 is a positive fraction of a day whenever −1 < r < 1 (`…_partial`) -/
theorem riseset_offset_pos_partial (lat dec adj : ℝ) (h : shurMaghM0Adj lat dec = some adj)
    (hr : (Real.sin (toRadians (Gen.CENTER_OF_SUN_ANGLE : ℝ)) - Real.sin (toRadians lat) * Real.sin (toRadians dec)) /
      (Real.cos (toRadians lat) * Real.cos (toRadians dec)) < 1)
    (hr' : -1 < (Real.sin (toRadians (Gen.CENTER_OF_SUN_ANGLE : ℝ)) - Real.sin (toRadians lat) * Real.sin (toRadians dec)) /
      (Real.cos (toRadians lat) * Real.cos (toRadians dec))) :
    0 < adj ∧ adj < 1 / 2 := by
  have h0 := arcDeg_pos hr
  have h1 := arcDeg_lt hr'
  rw [← riseset_hourangle lat dec adj h hr hr'] at h0 h1
  constructor <;> linarith

/-- **Fajr is at least as far before the transit as the first approximation of Shurooq, Isha as far
    after it as that of Maghrib** (`…_partial`: first approximations; the one-step correction of
    rise/set is not bounded here): for a depression angle a ≥ 0.83337° the twilight hour angle is at
    least the rise/set hour angle -/
theorem twilight_outside_riseset_partial (lat dec a adj : ℝ)
    (hk : 0 < Real.cos (toRadians lat) * Real.cos (toRadians dec))
    (ha : 83337 / 100000 ≤ a) (ha' : a ≤ 90)
    (h : shurMaghM0Adj lat dec = some adj)
    (hr : (Real.sin (toRadians (Gen.CENTER_OF_SUN_ANGLE : ℝ)) - Real.sin (toRadians lat) * Real.sin (toRadians dec)) /
      (Real.cos (toRadians lat) * Real.cos (toRadians dec)) < 1)
    (hr' : -1 < (Real.sin (toRadians (Gen.CENTER_OF_SUN_ANGLE : ℝ)) - Real.sin (toRadians lat) * Real.sin (toRadians dec)) /
      (Real.cos (toRadians lat) * Real.cos (toRadians dec))) :
    360 * adj ≤ toDegrees (Real.arccos (twilightCos lat dec a)) := by
  rw [riseset_hourangle lat dec adj h hr hr', riseCos_eq]
  exact arcDeg_anti (twilightCos_antitone hk (by norm_num) ha ha')

variable {α : Type} [Add α] [Sub α] [Mul α] [Div α] [Neg α] [OfScientific α] [Sc α]

/-- **with no extreme-latitude policy nothing is flagged extreme** — all six hours, every scalar
    type, with or without intervals -/
theorem none_policy_no_extreme (p : Params α) (hours : Hours α) (env : Env α) (r : PHours α)
    (hp : p.policy = .None) (hr : adjForExtLat p hours env = .ok r) :
    flagOf r.fajr = false ∧ flagOf r.shur = false ∧ flagOf r.dhuhr = false ∧
    flagOf r.asr = false ∧ flagOf r.magh = false ∧ flagOf r.isha = false :=
  adjForInt_conv_unflagged p hours r (adjForExtLat_none p hours env hp ▸ hr)

/-- …and so is Imsaak: under policy None the first Fajr is never extreme, so Imsaak is that Fajr's
    time with that Fajr's (false) flag -/
theorem none_policy_imsaak_not_extreme (p : Params α) (t : TopAstroDay α) (w : Weather α) (pt : PT)
    (hp : p.policy = .None) (h : getImsaak p t w = .ok (some pt)) : pt.extreme = false := by
  have hp1 : (imsaakParams1 p).policy = .None := by
    unfold imsaakParams1; split <;> [skip; split] <;> exact hp
  obtain ⟨h1, hr1, ⟨_, _, ht⟩ | ⟨he, _⟩⟩ := imsaakOf_ok _ _ _ h
  · -- Imsaak is the Fajr of the adjusted parameters, with that Fajr's flag
    obtain ⟨_, hn⟩ | ⟨ph, _, hf, _, hpt⟩ := (optTime_ok_iff ..).mp ht
    · cases hn
    · have := (none_policy_no_extreme _ _ _ h1 hp1 hr1).1
      rw [hf] at this
      rw [Option.some.inj hpt]; exact this
  · -- the fallback needs an extreme Fajr, which policy None never produces
    rcases he with he | ⟨h0, hr0, he⟩
    · rw [fajrExtreme_eq, (none_policy_no_extreme _ _ _ h1 hp1 hr1).1] at he; cases he
    · rw [fajrExtreme_eq, (none_policy_no_extreme _ _ _ h0 hp hr0).1] at he; cases he

end IPT.C05
