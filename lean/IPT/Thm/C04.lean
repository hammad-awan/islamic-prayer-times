import IPT.Lemmas.Hours
/-
  C04 — Asr follows the shadow-length rule of the selected school.  Over ℝ, for the model's
  `getAsr` read with φ = latitude and δ = that date's (topocentric) declination, both in degrees.
  The school discriminants 1/2 and DEGREES_TO_10_BASE are re-read from the source.
-/
namespace IPT.C04
open IPT IPT.TrigLemmas IPT.HoursLemmas Real

/-- shadow factor of a school: 1 (Shafi) or 2 (Hanafi) -/
theorem ratio_values : (asrRatio .Shafi : ℝ) = 1 ∧ (asrRatio .Hanafi : ℝ) = 2 := ⟨c_ASR_SHAFI, c_ASR_HANAFI⟩

/-- hours per degree of hour angle: within 10⁻¹⁵ of 1/15 -/
theorem degrees_to_hours : |15 * (Gen.DEGREES_TO_10_BASE : ℝ) - 1| ≤ 1 / 10 ^ 15 := by
  rw [c_DEGREES_TO_10_BASE, abs_le]; constructor <;> norm_num

/-- the Asr altitude of the shadow rule: the altitude at which shadow = κ·height + noon shadow -/
noncomputable def asrAltitude (κ φ δ : ℝ) : ℝ := Real.arctan (1 / (κ + Real.tan |φ - δ|))

/-- it is the arccot of (κ + tan|φ-δ|): cot(altitude) = κ + noon shadow ratio, and it lies in (0, 90°) -/
theorem asrAltitude_is_arccot (κ φ δ : ℝ) (hκ : 0 < κ) (ht : 0 ≤ Real.tan |φ - δ|) :
    1 / Real.tan (asrAltitude κ φ δ) = κ + Real.tan |φ - δ| ∧
    0 < asrAltitude κ φ δ ∧ asrAltitude κ φ δ < Real.pi / 2 := by
  unfold asrAltitude
  refine ⟨by rw [Real.tan_arctan, one_div_one_div], ?_, Real.arctan_lt_pi_div_two _⟩
  exact Real.arctan_pos.mpr (one_div_pos.mpr (add_pos_of_pos_of_nonneg hκ ht))

/-- **whenever Asr is reported, the Sun's altitude at that hour angle (under that date's
    declination) is exactly the shadow-rule altitude**: sin φ sin δ + cos φ cos δ cos H = sin(arccot(κ + tan|φ-δ|)),
    H = (Asr − Dhuhr) / DEGREES_TO_10_BASE degrees -/
theorem asr_altitude (ratio : AsrRatio) (lat dec dhuhr asr : ℝ)
    (hk : Real.cos (toRadians lat) * Real.cos (toRadians dec) ≠ 0)
    (h : getAsr ratio lat dec dhuhr = some asr) :
    Real.sin (toRadians lat) * Real.sin (toRadians dec) +
      Real.cos (toRadians lat) * Real.cos (toRadians dec) *
        Real.cos (toRadians ((asr - dhuhr) / Gen.DEGREES_TO_10_BASE)) =
      Real.sin (asrAltitude (asrRatio ratio) (toRadians lat) (toRadians dec)) := by
  rw [getAsr_eq_some, asrCos_real] at h
  obtain ⟨⟨h1, h2⟩, rfl⟩ := h
  rw [add_sub_cancel_left, arcHours_div]
  exact altitude_eq hk h1 h2

/-- **Asr lies strictly after Dhuhr** (sun not at the pole of the day: |φ-δ| < 90°, cos φ cos δ > 0) -/
theorem asr_after_dhuhr (ratio : AsrRatio) (lat dec dhuhr asr : ℝ)
    (hk : 0 < Real.cos (toRadians lat) * Real.cos (toRadians dec))
    (hu : |toRadians lat - toRadians dec| < Real.pi / 2)
    (h : getAsr ratio lat dec dhuhr = some asr) : dhuhr < asr := by
  obtain ⟨-, rfl⟩ := getAsr_eq_some.mp h
  exact lt_add_of_pos_right _ (arcHours_pos (asrCos_lt_one hk hu))

/-- **Hanafi Asr is strictly later than Shafi Asr** for the same place and date -/
theorem hanafi_after_shafi (lat dec dhuhr aS aH : ℝ)
    (hk : 0 < Real.cos (toRadians lat) * Real.cos (toRadians dec))
    (hu : |toRadians lat - toRadians dec| < Real.pi / 2)
    (hS : getAsr .Shafi lat dec dhuhr = some aS) (hH : getAsr .Hanafi lat dec dhuhr = some aH) :
    aS < aH := by
  obtain ⟨⟨-, wS⟩, rfl⟩ := getAsr_eq_some.mp hS
  obtain ⟨⟨wH, -⟩, rfl⟩ := getAsr_eq_some.mp hH
  refine add_lt_add_right (arcHours_strictAnti wH ?_ wS) _
  -- the larger shadow factor gives the lower altitude, hence the smaller hour-angle cosine
  rw [asrCos_real, asrCos_real, ratio_values.1, ratio_values.2]
  have ht := Real.tan_nonneg_of_nonneg_of_le_pi_div_two (abs_nonneg (toRadians lat - toRadians dec)) hu.le
  exact div_lt_div_of_pos_right (sub_lt_sub_right (Real.sin_arctan_strictMono
    (one_div_lt_one_div_of_lt (by linarith) (by linarith))) _) hk

/-- Asr precedes sunset, at the level of hour angles (first approximation of Maghrib: the hour
    angle H₀ at which the Sun's centre is at h₀ = −0.83337°; the Newton correction of the real
    Maghrib is not covered — `…_partial`) -/
theorem asr_before_maghrib_first_approx_partial (ratio : AsrRatio) (lat dec : ℝ)
    (hk : 0 < Real.cos (toRadians lat) * Real.cos (toRadians dec))
    (hu : |toRadians lat - toRadians dec| < Real.pi / 2)
    (wA : withinAbs1 (asrCos ratio lat dec) = true)
    (r0 : ℝ) (hr0 : r0 = (Real.sin (toRadians Gen.CENTER_OF_SUN_ANGLE) -
        Real.sin (toRadians lat) * Real.sin (toRadians dec)) / (Real.cos (toRadians lat) * Real.cos (toRadians dec)))
    (w0 : -1 ≤ r0 ∧ r0 ≤ 1) :
    Real.arccos (asrCos ratio lat dec) < Real.arccos r0 := by
  rw [riseCos_eq] at hr0
  subst hr0
  exact Real.arccos_lt_arccos w0.1 (twilightCos_lt_asrCos hk hu (by norm_num) (by norm_num))
    ((withinAbs1_real _).mp wA).2

-- non-vacuity: at the equator on an equinox-like day (φ = δ = 0) Shafi Asr exists: r = sin(arctan 1) ∈ [-1,1]
example : ∃ a, getAsr .Shafi (0 : ℝ) 0 12 = some a := by
  refine ⟨_, getAsr_eq_some.mpr ⟨?_, rfl⟩⟩
  rw [asrCos_real]
  simp only [toRadians_real, zero_mul, Real.sin_zero, Real.cos_zero, mul_zero, sub_zero, mul_one, div_one]
  exact ⟨Real.neg_one_le_sin _, Real.sin_le_one _⟩

end IPT.C04
