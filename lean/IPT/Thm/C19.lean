import IPT.Model.Cli
import IPT.Model.CliDecode
import IPT.Model.Rng
import IPT.Thm.C14
import IPT.Lemmas.Json
import IPT.Lemmas.Times
/-
  C19 — the CLI reports what the library computes; saved parameters reproduce it.
  (Weakest property for this technique: mostly glue.)  Theorems about the wiring model, for every
  scalar type; everything else is translation validation: the real binary's -o bytes against the
  model's rendering of the model's results (unit `cli`), and the falsifier (decode with the real
  serde decoder and compare with the library API; -p then -i byte-identical; listing shape; exit
  status just outside each range).
-/
namespace IPT.C19
open IPT
variable {α : Type} [Add α] [Sub α] [Mul α] [Div α] [Neg α] [OfScientific α] [Sc α]

/-- the parameters are exactly Params::new(method); the location is the four accepted values -/
theorem cli_wiring (a : CliArgs α) (today : Int) :
    (readParamsCli a today).params = paramsNew a.method ∧
    (readParamsCli a today).location = ⟨⟨a.lat, a.lon, a.elev⟩, a.gmt⟩ := ⟨rfl, rfl⟩

/-- date defaults: no start = today; no end = the start -/
theorem cli_date_defaults (a : CliArgs α) (today : Int) :
    (a.startRd = none → (readParamsCli a today).startRd = today) ∧
    (∀ s, a.startRd = some s → (readParamsCli a today).startRd = s) ∧
    (a.endRd = none → (readParamsCli a today).endRd = (readParamsCli a today).startRd) ∧
    (∀ e, a.endRd = some e → (readParamsCli a today).endRd = e) := by
  refine ⟨fun h => by simp [readParamsCli, h], fun s h => by simp [readParamsCli, h],
    fun h => by simp [readParamsCli, h], fun e h => by simp [readParamsCli, h]⟩

/-- a location exists iff each of the four values passes its type's range check (C18), and then holds
    exactly those values.  (This is the wiring model's part of "out-of-range values are rejected
    before anything is computed": `cliCompute` needs a `Location`.  Exit codes, clap's parsing and the
    order of side effects are not modelled; the falsifier runs the real binary just outside each range
    and checks a non-zero exit and that no output file was written.) -/
theorem cli_accepts_iff_in_range (lat lon elev gmt : α) :
    (∃ l, cliLocation lat lon elev gmt = some l) ↔
      ((tryFrom .Latitude lat).isSome ∧ (tryFrom .Longitude lon).isSome ∧
       (tryFrom .Elevation elev).isSome ∧ (tryFrom .Gmt gmt).isSome) := by
  unfold cliLocation
  split
  · next ha hb hc hd => simp [ha, hb, hc, hd]
  · next hno =>
    simp only [Option.isSome_iff_exists, reduceCtorEq, exists_false, false_iff]
    rintro ⟨⟨a, ha⟩, ⟨b, hb⟩, ⟨c, hc⟩, ⟨d, hd⟩⟩
    exact hno a b c d ha hb hc hd

theorem cli_location_values (lat lon elev gmt : α) (l : Location α) (h : cliLocation lat lon elev gmt = some l) :
    l = ⟨⟨lat, lon, elev⟩, gmt⟩ := by
  -- an accepted value is stored unchanged
  have id : ∀ {t : BType} {v x : α}, tryFrom t v = some x → x = v := fun {t v x} hx => by
    unfold tryFrom at hx
    split at hx
    · exact (Option.some.inj hx).symm
    · cases hx
  unfold cliLocation at h
  split at h
  · next ha hb hc hd => rw [← Option.some.inj h, id ha, id hb, id hc, id hd]
  · cases h

/-- **what the tool computes is the library's range result**: when it succeeds, the list is
    `rngModel` (the model of `prayer_times_dt_rng`, Model/Rng.lean - the object unit `rng` compares
    with the real function and Thm C14 `rng_is_per_day`, Thm C15 `parallel_eq_sequential` are
    about) with every entry an `Ok` -/
theorem cliCompute_eq_rng (c : ParamsConfig α) (l : List (Int × DayTimes)) (h : cliCompute c = .ok l) :
    l.map (fun x => (x.1, (Except.ok x.2 : Except Panic DayTimes))) =
      rngModel c.params c.location c.startRd c.endRd := by
  unfold cliCompute at h
  unfold rngModel
  generalize rangeDates c.startRd c.endRd = ds at h
  induction ds generalizing l with
  | nil => cases h; rfl
  | cons rd rest ih =>
    rw [List.foldr_cons] at h
    split at h
    · next d rest' hd hr => cases h; rw [List.map_cons, List.map_cons, hd, ih rest' hr]
    all_goals cases h

/-- **the tool computes one entry per date of the range, each the single-date result** -/
theorem cliCompute_dates (c : ParamsConfig α) (l : List (Int × DayTimes)) (h : cliCompute c = .ok l) :
    l.map Prod.fst = rangeDates c.startRd c.endRd ∧
    ∀ x ∈ l, prayerTimesDt c.params c.location x.1 none = .ok x.2 := by
  have e := cliCompute_eq_rng c l h
  constructor
  · simpa [rngModel, Function.comp_def] using congrArg (List.map Prod.fst) e
  · intro x hx
    have hm := List.mem_map_of_mem (f := fun x => (x.1, (Except.ok x.2 : Except Panic DayTimes))) hx
    rw [e] at hm
    obtain ⟨rd, _, hrd⟩ := List.mem_map.mp hm
    obtain ⟨rfl, h2⟩ := Prod.mk.inj hrd
    exact h2

/-! ### The written JSON decodes to exactly the computed result (model codec) -/
section codec
open IPT.JsonLemmas

/-- a rendering with a decoder that undoes it on the inputs satisfying `p` is injective on them -/
theorem inj_of_decode {σ τ : Type} {f : σ → τ} {g : τ → Option σ} {p : σ → Prop} (hg : ∀ a, p a → g (f a) = some a)
    {a b : σ} (ha : p a) (hb : p b) (h : f a = f b) : a = b :=
  Option.some.inj (by rw [← hg a ha, h, hg b hb])

/-- **decode ∘ render = id**: the document `renderRange` writes for a result decodes, under the
    strict decoder of Model/CliDecode, to exactly that result - for every list of entries whose
    dates have years 0..9999 (the years chrono writes without a sign) and whose clock fields have
    two digits.  With `cliCompute_wf` (every computed result has such fields) and the `cli`
    correspondence (the real file's bytes are `renderRange` of the model's result) this is the
    model's statement of "the JSON written by the tool decodes to exactly the library's result". -/
theorem decode_render (days : List (Int × DayTimes)) (h : ∀ e ∈ days, EntryWf e) :
    decodeRange (renderRange days) = some days := by
  rw [decodeRange, decodeRangeL_eq, renderRange_toList]
  exact braced_render decodeEntry_render (fun _ => List.cons_ne_nil _ _) days h

/-- hence the document determines the result: two well-formed results with the same rendering are equal -/
theorem render_injective (a b : List (Int × DayTimes)) (ha : ∀ e ∈ a, EntryWf e) (hb : ∀ e ∈ b, EntryWf e)
    (h : renderRange a = renderRange b) : a = b :=
  inj_of_decode decode_render ha hb h

/-- **the canonical form carries the same value**: `renderRangeCanon` (compact, keys in byte order -
    what re-serialising the decoded value gives) decodes, under its own strict decoder, to exactly
    the result it was rendered from.  This is what makes the check's rule for documents whose bytes
    differ sound: equal canonical forms ⇒ equal results (`canon_injective`). -/
theorem decodeCanon_render (days : List (Int × DayTimes)) (h : ∀ e ∈ days, EntryWf e) :
    decodeRangeCanon (renderRangeCanon days) = some days := by
  rw [decodeRangeCanon, decodeRangeCanonL_eq, renderRangeCanon_toList]
  exact braced_render decodeEntryCanon_render (fun _ => List.cons_ne_nil _ _) days h

theorem canon_injective (a b : List (Int × DayTimes)) (ha : ∀ e ∈ a, EntryWf e) (hb : ∀ e ∈ b, EntryWf e)
    (h : renderRangeCanon a = renderRangeCanon b) : a = b :=
  inj_of_decode decodeCanon_render ha hb h

/-- the two renderings of one result describe the same value: each decodes to it -/
theorem canon_same_value (days : List (Int × DayTimes)) (h : ∀ e ∈ days, EntryWf e) :
    decodeRange (renderRange days) = decodeRangeCanon (renderRangeCanon days) := by
  rw [decode_render days h, decodeCanon_render days h]

theorem hmsOpt_wf {a b c : Nat} {t : HMS} (e : hmsOpt a b c = .ok t) : t.h < 24 ∧ t.m < 60 ∧ t.s < 60 := by
  unfold hmsOpt at e
  split at e
  · next hc => cases e; exact hc
  · cases e

/-- every clock time the model produces is a valid time of day (`hmsOpt` is chrono's
    `NaiveTime::from_hms_opt(..).unwrap()`: anything else is a panic, not a result) -/
theorem hourToTime_wf {p : Params α} {pr : Prayer} {x : α} {t : HMS} (h : hourToTime p pr x = .ok t) :
    t.h < 24 ∧ t.m < 60 ∧ t.s < 60 := by
  unfold hourToTime at h
  split at h
  · cases h
  · exact hmsOpt_wf h

theorem optTime_wf {p : Params α} {pr : Prayer} {o : Option (PH α)} {x : Option PT} (h : optTime p pr o = .ok x) :
    PTwf x := by
  obtain ⟨_, rfl⟩ | ⟨ph, t, _, ht, rfl⟩ := (TimesLemmas.optTime_ok_iff ..).mp h
  · trivial
  · have := hourToTime_wf ht
    show t.h < 100 ∧ t.m < 100 ∧ t.s < 100
    omega

theorem imsaakOf_wf {p : Params α} {run : Params α → Except Panic (PHours α)} {x : Option PT}
    (h : imsaakOf p run = .ok x) : PTwf x := by
  obtain ⟨_, _, ⟨_, _, ht⟩ | ⟨_, _, _, ht⟩⟩ := TimesLemmas.imsaakOf_ok _ _ _ h
  · exact optTime_wf ht
  · -- the fallback sets the flag and keeps the time
    obtain ⟨y, hy, rfl⟩ := (TimesLemmas.flagExtreme_ok_iff ..).mp ht
    have := optTime_wf hy
    cases y <;> exact this

/-- **every result of `prayerTimesDt` has seven well-formed entries** (each absent, or a time with
    h < 24, m < 60, s < 60 - two digits per field), for every scalar type -/
theorem prayerTimesDt_wf (p : Params α) (loc : Location α) (rd : Int) (w : Option (Weather α)) (d : DayTimes)
    (h : prayerTimesDt p loc rd w = .ok d) : DayWf d := by
  obtain ⟨_, _, f, s, dh, a, m, i, im⟩ := TimesLemmas.prayerTimesDt_ok p loc rd w d h
  exact ⟨imsaakOf_wf im, optTime_wf f, optTime_wf s, optTime_wf dh, optTime_wf a, optTime_wf m, optTime_wf i⟩

/-- so every entry the tool computes for a range inside years 0..9999 is well formed ... -/
theorem cliCompute_wf (c : ParamsConfig α) (l : List (Int × DayTimes)) (h : cliCompute c = .ok l)
    (hy : ∀ rd ∈ rangeDates c.startRd c.endRd, DateWf rd) : ∀ e ∈ l, EntryWf e := by
  obtain ⟨h1, h2⟩ := cliCompute_dates c l h
  intro e he
  exact ⟨hy e.1 (h1 ▸ List.mem_map_of_mem he), prayerTimesDt_wf _ _ _ _ _ (h2 e he)⟩

/-- **C19, first clause, on the model**: for every accepted configuration whose dates lie in years
    0..9999, the document the tool writes (`renderRange` of what it computes) decodes to exactly
    the per-date library results for the dates of the range, in order. -/
theorem cli_json_decodes_to_library_result (c : ParamsConfig α) (l : List (Int × DayTimes))
    (h : cliCompute c = .ok l) (hy : ∀ rd ∈ rangeDates c.startRd c.endRd, DateWf rd) :
    decodeRange (renderRange l) = some l ∧
    l.map Prod.fst = rangeDates c.startRd c.endRd ∧
    ∀ x ∈ l, prayerTimesDt c.params c.location x.1 none = .ok x.2 :=
  ⟨decode_render l (cliCompute_wf c l h hy), cliCompute_dates c l h⟩

/-- every day number of the common era that chrono can hold with a four-digit year
    (0001-01-01 .. 9999-12-31, i.e. 1 .. 3 652 059) is rendered without a sign: `DateWf` -/
theorem dateWf_of_ce (rd : Int) (h1 : 1 ≤ rd) (h2 : rd ≤ 3652059) : DateWf rd := by
  -- the year of `rd` begins on or before `rd` and the next year after it; year starts are monotone
  have spec := CivilLemmas.yearOfRD_spec rd
  have lo := CivilLemmas.yearStart_mono (yearOfRD rd + 1) 1
  have hi := CivilLemmas.yearStart_mono 10000 (yearOfRD rd)
  have e1 : toRD ⟨1, 1, 1⟩ = 1 := by decide
  have e2 : toRD ⟨10000, 1, 1⟩ = 3652060 := by decide
  rw [DateWf, (CivilLemmas.fromRD_valid rd).2.2.2.2.2]
  omega

/-- **C19, first clause, over the property's dates**: for every accepted configuration whose range
    lies within 0001-01-01 .. 9999-12-31 (the quantifier's 1600..2399 included) the written document
    decodes to exactly the per-date library results of the range, in order - no hypothesis left
    about the rendering -/
theorem cli_json_decodes_ce (c : ParamsConfig α) (l : List (Int × DayTimes))
    (h : cliCompute c = .ok l) (hs : 1 ≤ c.startRd) (he : c.endRd ≤ 3652059) :
    decodeRange (renderRange l) = some l ∧
    l.map Prod.fst = rangeDates c.startRd c.endRd ∧
    ∀ x ∈ l, prayerTimesDt c.params c.location x.1 none = .ok x.2 := by
  apply cli_json_decodes_to_library_result c l h
  intro rd hrd
  have := (C14.rangeDates_mem c.startRd c.endRd rd).mp hrd
  exact dateWf_of_ce rd (by omega) (by omega)

end codec

-- non-vacuity: the hypotheses of `decode_render` are met by a two-entry result (one absent entry,
-- two extreme ones), and the empty document decodes to the empty result
example :
    let d : DayTimes := ⟨none, some ⟨⟨3, 7, 9⟩, true⟩, some ⟨⟨5, 40, 0⟩, false⟩, some ⟨⟨12, 0, 59⟩, false⟩,
      some ⟨⟨15, 1, 2⟩, false⟩, some ⟨⟨18, 20, 30⟩, false⟩, some ⟨⟨23, 59, 59⟩, true⟩⟩
    ∀ e ∈ [(738521, d), (738522, d)], IPT.JsonLemmas.EntryWf e := by
  intro d e he
  have hd : IPT.JsonLemmas.DayWf d := by simp [IPT.JsonLemmas.DayWf, IPT.JsonLemmas.PTwf, d]
  simp only [List.mem_cons, List.not_mem_nil, or_false] at he
  rcases he with rfl | rfl <;> exact ⟨⟨by decide, by decide⟩, hd⟩
example : decodeRange (renderRange []) = some [] := by decide

-- non-vacuity: a range of three days
example : rangeDates 738521 738523 = [738521, 738522, 738523] := by decide
example : isoDate 738521 = "2023-01-01" := by decide

end IPT.C19
