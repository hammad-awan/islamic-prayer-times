import IPT.Model.Times
import IPT.Lemmas.Hours
import IPT.Thm.C13
/-
  C20 — clock times are consistent across time zones and meridians (PARTIAL).
  Proved over ℝ: the zone offset enters only the Julian Day of local midnight, linearly (Thm C13);
  longitude enters the transit fraction, every hour angle and the parallax hour angle only through
  (sidereal time + longitude): KERNEL LEMMAS about the formulas - `hours_lon_sid_invariant` edits the
  sidereal time of the record by hand; no pair of real inputs produces exactly that record (a real
  15°/1 h move changes the sidereal time by 15.04° and the Sun's coordinates of all three days), and
  the statement stops at `getHours` (no policy layer, no rounding).  What remains — the Sun's own motion during the shifted interval
  (sidereal time at local midnight changes by 15.04°, not 15°, per hour) — is the 10 s of the
  property and is decided by the falsifier.
-/
namespace IPT.C20
open IPT IPT.HoursLemmas

/-- the zone offset moves the Julian Day of local midnight by exactly −d/24 (Thm C13 `jd_gmt_linear`,
    restated).  That the offset enters nowhere else is `gmt_only_through_jd`. -/
theorem gmt_enters_only_jd (dt : Date) (g d : ℝ) (h : C13.GregorianDate dt) :
    jdValue dt (g + d) = jdValue dt g - d / 24 := C13.jd_gmt_linear dt g d h

section factor
variable {α : Type} [Add α] [Sub α] [Mul α] [Div α] [Neg α] [OfScientific α] [Sc α]

/-- the whole computation of a day, as a function of the parameters, the coordinates, the weather and
    the Julian Day object of local midnight - no zone offset among its arguments -/
def timesAtJd (p : Params α) (c : Coords α) (w : Option (Weather α)) (jd : JD α) : Except Panic DayTimes :=
  let w := w.getD defaultWeather
  let t := topFromJd jd c
  match getHoursAdjExt p t w with
  | .error e => .error e
  | .ok h => assemble p h (getImsaak p t w)

/-- **the zone offset enters the result only through the Julian Day of local midnight** (the object
    `JD.new date gmt`, from which the neighbouring days of the searches are stepped): every scalar type -/
theorem gmt_only_through_jd (p : Params α) (loc : Location α) (rd : Int) (w : Option (Weather α)) :
    prayerTimesDt p loc rd w = timesAtJd p loc.coords w (JD.new rd loc.gmt) := rfl

end factor

/-- **the hour angle depends on longitude and sidereal time only through their sum** -/
theorem hourAngle_lon_sid (sid ra lon x m : ℝ) (d : ℝ × ℝ) :
    hourAngle (sid - x) ra (lon + x) d m = hourAngle sid ra lon d m := by
  rw [hourAngle_eq, hourAngle_eq]
  congr 1; ring

/-- the transit fraction likewise -/
theorem transit_lon_sid (ra lon sid x : ℝ) :
    (ra - (lon + x) - (sid - x)) / (Gen.TWO_PI_DEG : ℝ) = (ra - lon - sid) / Gen.TWO_PI_DEG := by
  congr 1; ring

/-- and the local hour angle used by the parallax correction -/
theorem parallax_lon_sid (sid ra lon x : ℝ) : capAngle360 ((sid - x) + (lon + x) - ra) = capAngle360 (sid + lon - ra) := by
  congr 1; ring

/-- the site moved east by x with the (apparent, Greenwich) sidereal time of the day lower by x -/
def shifted (t : TopAstroDay ℝ) (x : ℝ) : TopAstroDay ℝ :=
  { t with coords := { t.coords with lon := t.coords.lon + x }, cur := { t.cur with sid := t.cur.sid - x } }

/-- **all six conventional hours are unchanged** when the site moves east by x and the sidereal
    time at local midnight is lower by x: longitude and sidereal time enter only through their sum
    (what remains of a 15° move with one more hour of zone offset is the 0.04° by which sidereal
    time advances faster than the clock — the property's 10 seconds) -/
theorem hours_lon_sid_invariant (p : Params ℝ) (t : TopAstroDay ℝ) (w : Weather ℝ) (x : ℝ) :
    getHours p (shifted t x) w = getHours p t w := by
  simp only [getHours, shurDhuhrMagh, shifted, transit_lon_sid, hourAngle_lon_sid]

-- non-vacuity: a one-hour zone change on a Gregorian date
example : C13.GregorianDate ⟨2023, 2, 6⟩ := by unfold C13.GregorianDate; decide

/-- the hour angles of this property interpolate the right ascension with the deltas of the
    unwrapped sequence (Thm C13 `ra_wrap_lift`, restated: this property depends on it) -/
theorem ra_wrap_lift (P C N : ℝ) (hC0 : 0 ≤ C) (hC1 : C < 360)
    (hp0 : 0 < C - P) (hp1 : C - P < 10) (hn0 : 0 < N - C) (hn1 : N - C < 10) :
    raInterpDeltas (if P < 0 then P + 360 else P) C (if 360 ≤ N then N - 360 else N) = (N - P, N + P - 2 * C) :=
  C13.ra_wrap_lift P C N hC0 hC1 hp0 hp1 hn0 hn1

end IPT.C20
