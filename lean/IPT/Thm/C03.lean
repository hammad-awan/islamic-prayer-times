import IPT.Lemmas.Hours
import IPT.Model.Times
/-
  C03 — Fajr, Isha and Imsaak occur at the configured solar depression angle.
  Over ℝ, for the model's `fajrIsha` read with φ = latitude and δ = that date's declination
  (the clause "within 0.03° when evaluated with that date's declination" is exact here; the
  0.5° clause against the true instantaneous altitude is astronomical and left to the falsifier).
-/
namespace IPT.C03
open IPT IPT.TrigLemmas IPT.HoursLemmas Real

/-- **Fajr: the Sun is below the horizon by exactly the Fajr angle, before noon** -/
theorem fajr_altitude (angF angI lat dec dhuhr f : ℝ)
    (hk : Real.cos (toRadians lat) * Real.cos (toRadians dec) ≠ 0)
    (h : (fajrIsha angF angI lat dec dhuhr).1 = some f) :
    Real.sin (toRadians lat) * Real.sin (toRadians dec) +
      Real.cos (toRadians lat) * Real.cos (toRadians dec) *
        Real.cos (toRadians ((dhuhr - f) / Gen.DEGREES_TO_10_BASE)) = Real.sin (toRadians (-angF)) ∧
    f ≤ dhuhr := by
  obtain ⟨⟨h1, h2⟩, rfl⟩ := fajr_eq_some.mp h
  rw [sub_sub_cancel, arcHours_div]
  exact ⟨altitude_eq hk h1 h2, sub_le_self _ (arcHours_nonneg _)⟩

/-- **Isha: the Sun is below the horizon by exactly the Isha angle, after noon** -/
theorem isha_altitude (angF angI lat dec dhuhr i : ℝ)
    (hk : Real.cos (toRadians lat) * Real.cos (toRadians dec) ≠ 0)
    (h : (fajrIsha angF angI lat dec dhuhr).2 = some i) :
    Real.sin (toRadians lat) * Real.sin (toRadians dec) +
      Real.cos (toRadians lat) * Real.cos (toRadians dec) *
        Real.cos (toRadians ((i - dhuhr) / Gen.DEGREES_TO_10_BASE)) = Real.sin (toRadians (-angI)) ∧
    dhuhr ≤ i := by
  obtain ⟨⟨h1, h2⟩, rfl⟩ := isha_eq_some.mp h
  rw [add_sub_cancel_left, arcHours_div]
  exact ⟨altitude_eq hk h1 h2, le_add_of_nonneg_right (arcHours_nonneg _)⟩

/-- **a larger angle never gives a later Fajr** - needs the two Fajr times only (no hypothesis on
    Isha: also on the high-latitude days where Isha does not exist) -/
theorem fajr_monotone (a a' b b' lat dec dhuhr f f' : ℝ)
    (hk : 0 < Real.cos (toRadians lat) * Real.cos (toRadians dec))
    (ha0 : -90 ≤ a) (ha : a ≤ a') (ha1 : a' ≤ 90)
    (hf : (fajrIsha a b lat dec dhuhr).1 = some f) (hf' : (fajrIsha a' b' lat dec dhuhr).1 = some f') :
    f' ≤ f := by
  obtain ⟨-, rfl⟩ := fajr_eq_some.mp hf
  obtain ⟨-, rfl⟩ := fajr_eq_some.mp hf'
  exact sub_le_sub_left (arcHours_anti (twilightCos_antitone hk ha0 ha ha1)) _

/-- **a larger angle never gives an earlier Isha** - needs the two Isha times only -/
theorem isha_monotone (a a' b b' lat dec dhuhr i i' : ℝ)
    (hk : 0 < Real.cos (toRadians lat) * Real.cos (toRadians dec))
    (hb0 : -90 ≤ b) (hb : b ≤ b') (hb1 : b' ≤ 90)
    (hi : (fajrIsha a b lat dec dhuhr).2 = some i) (hi' : (fajrIsha a' b' lat dec dhuhr).2 = some i') :
    i ≤ i' := by
  obtain ⟨-, rfl⟩ := isha_eq_some.mp hi
  obtain ⟨-, rfl⟩ := isha_eq_some.mp hi'
  exact add_le_add_right (arcHours_anti (twilightCos_antitone hk hb0 hb hb1)) _

/-- **a larger angle never gives a later Fajr or an earlier Isha** (joint form; `fajr_monotone` and `isha_monotone`
    are the one-sided statements) -/
theorem twilight_monotone (a a' b b' lat dec dhuhr f f' i i' : ℝ)
    (hk : 0 < Real.cos (toRadians lat) * Real.cos (toRadians dec))
    (ha0 : -90 ≤ a) (ha : a ≤ a') (ha1 : a' ≤ 90) (hb0 : -90 ≤ b) (hb : b ≤ b') (hb1 : b' ≤ 90)
    (hf : (fajrIsha a b lat dec dhuhr).1 = some f) (hf' : (fajrIsha a' b' lat dec dhuhr).1 = some f')
    (hi : (fajrIsha a b lat dec dhuhr).2 = some i) (hi' : (fajrIsha a' b' lat dec dhuhr).2 = some i') :
    f' ≤ f ∧ i ≤ i' :=
  ⟨fajr_monotone a a' b b' lat dec dhuhr f f' hk ha0 ha ha1 hf hf',
   isha_monotone a a' b b' lat dec dhuhr i i' hk hb0 hb hb1 hi hi'⟩

/-- **Imsaak ≤ Fajr**: Imsaak is Fajr at the angle Fajr + Imsaak (below), a non-negative Imsaak
    angle is a larger depression, so it is never later -/
theorem imsaak_le_fajr (a im b lat dec dhuhr f fi : ℝ)
    (hk : 0 < Real.cos (toRadians lat) * Real.cos (toRadians dec))
    (ha0 : -90 ≤ a) (him : 0 ≤ im) (ha1 : a + im ≤ 90)
    (hf : (fajrIsha a b lat dec dhuhr).1 = some f) (hfi : (fajrIsha (a + im) b lat dec dhuhr).1 = some fi) :
    fi ≤ f :=
  fajr_monotone a (a + im) b b lat dec dhuhr f fi hk ha0 (le_add_of_nonneg_right him) ha1 hf hfi

variable {α : Type} [Add α] [Sub α] [Mul α] [Div α] [Neg α] [OfScientific α] [Sc α]

/-- **Imsaak is Fajr with the Imsaak angle added** (no Fajr/Imsaak interval): the parameter set
    the Imsaak computation starts from differs from the caller's only in the Fajr angle — for
    every scalar type -/
theorem imsaak_is_fajr_at_sum_angle (p : Params α) (hF : nonZero p.intFajr = false) (hI : nonZero p.intImsaak = false) :
    imsaakParams1 p = { p with angFajr := p.angFajr + p.angImsaak } := by
  simp [imsaakParams1, hF, hI]

/-- …and when neither that Fajr nor the reported Fajr is an extreme-latitude replacement, Imsaak is
    exactly that Fajr's time -/
theorem imsaak_time (p : Params α) (run : Params α → Except Panic (PHours α)) (h1 h0 : PHours α) (f : PH α)
    (hr : run (imsaakParams1 p) = .ok h1) (hf : h1.fajr = some f) (hne : f.extreme = false)
    (hr0 : run p = .ok h0) (hne0 : fajrExtreme h0 = false) :
    imsaakOf p run = optTime (imsaakParams1 p) .Fajr (some f) := by
  have e1 : fajrExtreme h1 = false := by simp [fajrExtreme, hf, hne]
  simp [imsaakOf, hr, hr0, hne0, e1, hf]

/-- the per-method angle table, as documented in params.rs (angles in degrees, Isha interval in
    minutes); regenerated from `Params::new` on every run -/
theorem method_table :
    (Gen.methodRow .None : MethodRow α) = ⟨0.0, 0.0, 0.0, .Shafi⟩ ∧
    (Gen.methodRow .Egyptian : MethodRow α) = ⟨20.0, 18.0, 0.0, .Shafi⟩ ∧
    (Gen.methodRow .Egypt : MethodRow α) = ⟨19.5, 17.5, 0.0, .Shafi⟩ ∧
    (Gen.methodRow .Shafi : MethodRow α) = ⟨18.0, 18.0, 0.0, .Shafi⟩ ∧
    (Gen.methodRow .Hanafi : MethodRow α) = ⟨18.0, 18.0, 0.0, .Hanafi⟩ ∧
    (Gen.methodRow .Isna : MethodRow α) = ⟨15.0, 15.0, 0.0, .Shafi⟩ ∧
    (Gen.methodRow .Mwl : MethodRow α) = ⟨18.0, 17.0, 0.0, .Shafi⟩ ∧
    (Gen.methodRow .UmmAlQurra : MethodRow α) = ⟨18.0, 0.0, 90.0, .Shafi⟩ ∧
    (Gen.methodRow .FixedIsha : MethodRow α) = ⟨19.5, 0.0, 90.0, .Shafi⟩ ∧
    (Gen.DEF_IMSAAK_ANGLE : α) = 1.5 :=
  ⟨rfl, rfl, rfl, rfl, rfl, rfl, rfl, rfl, rfl, rfl⟩

-- non-vacuity: at the equator with δ = 0, an 18° Fajr exists (r = sin(-18°) ∈ [-1,1])
example : ∃ f, (fajrIsha (18 : ℝ) 18 0 0 12).1 = some f := by
  refine ⟨_, fajr_eq_some.mpr ⟨?_, rfl⟩⟩
  rw [twilightCos_real]
  simp only [toRadians_real, zero_mul, Real.sin_zero, Real.cos_zero, mul_zero, sub_zero, mul_one, div_one]
  exact ⟨Real.neg_one_le_sin _, Real.sin_le_one _⟩

end IPT.C03
