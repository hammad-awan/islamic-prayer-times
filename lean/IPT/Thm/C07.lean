import IPT.Lemmas.ExtLat
import IPT.Lemmas.Times
import IPT.Thm.C11
import IPT.Lemmas.Hours
/-
  C07 — computing prayer times never panics or hangs on valid input (decision-logic part).
  Proved for EVERY scalar type α, with no law assumed about its arithmetic: these statements
  hold of the Float instance itself, i.e. of the program that is bit-compared with the Rust code.
  The ℝ-part (NaiveTime fields always in range; the negative-hour loop terminates) is in
  Thm/C11.lean (`hourToTime_ok`), which this file's `prayerTimesDt_ok_of_times` composes with.
-/
namespace IPT.C07
open IPT IPT.ExtLatLemmas IPT.TimesLemmas
variable {α : Type} [Add α] [Sub α] [Mul α] [Div α] [Neg α] [OfScientific α] [Sc α]

/-- the source reads the extreme flag of a possibly invalid Fajr/Isha without unwrapping.
    False of the code as first found (`.unwrap().extreme`): the policy layer then panics for an
    interval-based method whose Fajr/Isha is invalid. -/
theorem flag_read_total : Gen.intFlagRead = .mapOrFalse := by decide

/-- the interval pass never panics -/
theorem adjForInt_ok (p : Params α) (h : PHours α) : ∃ r, adjForInt p h = .ok r := ⟨_, adjForInt_eq p h⟩

/-- nearest-latitude is the only writer with an `unwrap` (on Dhuhr); Dhuhr is always present -/
theorem adjNearLat_ok (p : Params α) (h : PHours α) (adj : Hours α) (hd : h.dhuhr.isSome) :
    ∃ r, adjNearLat p h adj = .ok r := by
  obtain ⟨d, hd⟩ := Option.isSome_iff_exists.mp hd
  rw [adjNearLat_eq, hd]
  split <;> exact ⟨_, rfl⟩

/-- **the policy layer never panics**: for all 15 policies, all parameter values, every
    validity pattern of the other five hours and every environment -/
theorem adjForExtLat_ok (p : Params α) (hours : Hours α) (env : Env α) (hd : hours.dhuhr.isSome) :
    ∃ r, adjForExtLat p hours env = .ok r := by
  unfold adjForExtLat
  have hA : ∃ r, applyPolicy p hours.toPH env = .ok r := by
    unfold applyPolicy
    split
    · split
      · exact ⟨_, rfl⟩
      · apply adjNearLat_ok
        cases h : hours.dhuhr <;> simp_all [Hours.toPH]
      · exact ⟨_, rfl⟩
      · exact ⟨_, rfl⟩
      · exact ⟨_, rfl⟩
      · exact ⟨_, rfl⟩
      · exact ⟨_, rfl⟩
    · exact ⟨_, rfl⟩
  obtain ⟨r, hr⟩ := hA
  rw [hr]
  exact adjForInt_ok p r

/-- conventional Dhuhr is always reported -/
theorem getHours_dhuhr (p : Params α) (t : TopAstroDay α) (w : Weather α) :
    (getHours p t w).dhuhr.isSome := by
  simp [getHours]

theorem getHoursAdjExt_ok (p : Params α) (t : TopAstroDay α) (w : Weather α) :
    ∃ r, getHoursAdjExt p t w = .ok r :=
  adjForExtLat_ok p _ _ (getHours_dhuhr p t w)

/-- the hour entries that are present in a set of adjusted hours -/
def presentHours (h : PHours α) : List (PH α) := [h.fajr, h.shur, h.dhuhr, h.asr, h.magh, h.isha].filterMap id

/-- A result always has exactly the seven entries (it is a record of seven), and the whole
    computation can only fail inside `hourToTime` (NaiveTime construction / the wrap loop): if the
    clock conversion succeeds for every hour that is actually present in the three runs the
    function makes (the caller's parameters, and the two Imsaak parameter sets), `prayerTimesDt`
    succeeds.  (An earlier version asked for the conversion of EVERY scalar to succeed; that
    hypothesis is false over the reals - a value of -10^7 hours exhausts the wrap loop - so the
    theorem was vacuous.  `C11.hourToTime_ok` discharges the present hypothesis for hours bounded
    below, which is what `dhuhr_bounds`/`twilight_bounds` provide for the conventional hours.) -/
theorem prayerTimesDt_ok_of_times (p : Params α) (loc : Location α) (rd : Int) (w : Option (Weather α))
    (hconv : ∀ (q : Params α) (h : PHours α), (q = p ∨ q = imsaakParams1 p ∨ q = imsaakParams2 p) →
      getHoursAdjExt q (topFromJd (JD.new rd loc.gmt) loc.coords) (w.getD defaultWeather) = .ok h →
      ∀ (pr : Prayer) (ph : PH α), ph ∈ presentHours h → ∃ t, hourToTime q pr ph.value = .ok t) :
    ∃ d, prayerTimesDt p loc rd w = .ok d := by
  unfold prayerTimesDt
  simp only
  obtain ⟨h, hh⟩ := getHoursAdjExt_ok p (topFromJd (JD.new rd loc.gmt) loc.coords) (w.getD defaultWeather)
  rw [hh]
  -- a slot converts when its value, if present, does
  have hopt : ∀ (q : Params α) (pr : Prayer) (o : Option (PH α)),
      (∀ ph, o = some ph → ∃ t, hourToTime q pr ph.value = .ok t) → ∃ r, optTime q pr o = .ok r := by
    intro q pr o ho
    cases o with
    | none => exact ⟨_, rfl⟩
    | some ph =>
      obtain ⟨t, ht⟩ := ho ph rfl
      simp [optTime, toPrayerTime, ht]
  have slot : ∀ (q : Params α) (g : PHours α), (q = p ∨ q = imsaakParams1 p ∨ q = imsaakParams2 p) →
      getHoursAdjExt q (topFromJd (JD.new rd loc.gmt) loc.coords) (w.getD defaultWeather) = .ok g →
      ∀ (pr : Prayer) (o : Option (PH α)), o ∈ [g.fajr, g.shur, g.dhuhr, g.asr, g.magh, g.isha] →
      ∃ r, optTime q pr o = .ok r := by
    intro q g hq hg pr o ho
    apply hopt
    intro ph hph
    apply hconv q g hq hg pr ph
    simp only [presentHours, List.mem_filterMap, id]
    exact ⟨o, ho, hph⟩
  have him : ∃ r, getImsaak p (topFromJd (JD.new rd loc.gmt) loc.coords) (w.getD defaultWeather) = .ok r := by
    unfold getImsaak imsaakOf
    obtain ⟨h1, hh1⟩ := getHoursAdjExt_ok (imsaakParams1 p) (topFromJd (JD.new rd loc.gmt) loc.coords) (w.getD defaultWeather)
    obtain ⟨h2, hh2⟩ := getHoursAdjExt_ok (imsaakParams2 p) (topFromJd (JD.new rd loc.gmt) loc.coords) (w.getD defaultWeather)
    obtain ⟨h0, hh0⟩ := getHoursAdjExt_ok p (topFromJd (JD.new rd loc.gmt) loc.coords) (w.getD defaultWeather)
    simp only [hh1, hh2, hh0]
    have hflag : ∀ r : Except Panic (Option PT), (∃ x, r = .ok x) → ∃ x, flagExtreme r = .ok x := by
      rintro r ⟨x, rfl⟩
      cases x <;> exact ⟨_, rfl⟩
    have c1 := slot (imsaakParams1 p) h1 (Or.inr (Or.inl rfl)) hh1 .Fajr h1.fajr (by simp)
    have c2 := slot (imsaakParams2 p) h2 (Or.inr (Or.inr rfl)) hh2 .Fajr h2.fajr (by simp)
    cases fajrExtreme h1 <;> cases fajrExtreme h0 <;> simp <;>
      first | exact c1 | exact hflag _ c2
  obtain ⟨im, him⟩ := him
  obtain ⟨f, hf⟩ := slot p h (Or.inl rfl) hh .Fajr h.fajr (by simp)
  obtain ⟨s, hs⟩ := slot p h (Or.inl rfl) hh .Shurooq h.shur (by simp)
  obtain ⟨d, hdd⟩ := slot p h (Or.inl rfl) hh .Dhuhr h.dhuhr (by simp)
  obtain ⟨a, ha⟩ := slot p h (Or.inl rfl) hh .Asr h.asr (by simp)
  obtain ⟨m, hm⟩ := slot p h (Or.inl rfl) hh .Maghrib h.magh (by simp)
  obtain ⟨i, hi⟩ := slot p h (Or.inl rfl) hh .Isha h.isha (by simp)
  simp [assemble, hf, hs, hdd, ha, hm, hi, him]

/-- **the seven reported entries are exactly the clock conversions of the six adjusted hours and of
    Imsaak** - nothing else enters a result (this is the link between the theorems about computed
    hours, C01-C06, and the times the API reports; the conversion itself is Thm C11) -/
theorem prayerTimesDt_entries (p : Params α) (loc : Location α) (rd : Int) (w : Option (Weather α)) (d : DayTimes)
    (h : prayerTimesDt p loc rd w = .ok d) :
    ∃ hh, getHoursAdjExt p (topFromJd (JD.new rd loc.gmt) loc.coords) (w.getD defaultWeather) = .ok hh ∧
      optTime p .Fajr hh.fajr = .ok d.fajr ∧ optTime p .Shurooq hh.shur = .ok d.shur ∧
      optTime p .Dhuhr hh.dhuhr = .ok d.dhuhr ∧ optTime p .Asr hh.asr = .ok d.asr ∧
      optTime p .Maghrib hh.magh = .ok d.magh ∧ optTime p .Isha hh.isha = .ok d.isha ∧
      getImsaak p (topFromJd (JD.new rd loc.gmt) loc.coords) (w.getD defaultWeather) = .ok d.imsaak :=
  prayerTimesDt_ok p loc rd w d h

section real
open IPT.AngleLemmas IPT.TrigLemmas IPT.HoursLemmas

/-- over ℝ the conventional Dhuhr lies in [−12 h, 36 h) -/
theorem dhuhr_bounds (t : TopAstroDay ℝ) (w : Weather ℝ) :
    -12 ≤ (shurDhuhrMagh t w).2.1 ∧ (shurDhuhrMagh t w).2.1 < 36 := by
  have key : ∀ m H : ℝ, 0 ≤ m → m < 1 → -180 < H → H ≤ 180 →
      -12 ≤ 24 * (m - H / 360) ∧ 24 * (m - H / 360) < 36 := fun m H m0 m1 h0 h1 =>
    ⟨by linear_combination 24 * m0 + (1 / 15) * h1, by linear_combination 24 * m1 + (1 / 15) * h0⟩
  simp only [shurDhuhrMagh, c_TWO_PI_DEG, c_HRS_PER_DAY]
  obtain ⟨m0, m1, -⟩ := capAngle1_spec ((t.cur.ra - t.coords.lon - t.cur.sid) / 360)
  exact key _ _ m0 m1 (hourAngle_range ..).1 (hourAngle_range ..).2

/-- …and Fajr and Isha within 180·c ≈ 12 h of it (Asr: `asr_bounds` below) -/
theorem twilight_bounds (angF angI lat dec dhuhr x : ℝ)
    (h : (fajrIsha angF angI lat dec dhuhr).1 = some x ∨ (fajrIsha angF angI lat dec dhuhr).2 = some x) :
    dhuhr - 180 * Gen.DEGREES_TO_10_BASE ≤ x ∧ x ≤ dhuhr + 180 * Gen.DEGREES_TO_10_BASE := by
  rcases h with h | h
  · obtain ⟨-, rfl⟩ := fajr_eq_some.mp h
    constructor <;> linarith [arcHours_nonneg (twilightCos lat dec angF), arcHours_le (twilightCos lat dec angF)]
  · obtain ⟨-, rfl⟩ := isha_eq_some.mp h
    constructor <;> linarith [arcHours_nonneg (twilightCos lat dec angI), arcHours_le (twilightCos lat dec angI)]

/-- Asr within 180·c ≈ 12 h after Dhuhr -/
theorem asr_bounds (ratio : AsrRatio) (lat dec dhuhr x : ℝ) (h : getAsr ratio lat dec dhuhr = some x) :
    dhuhr ≤ x ∧ x ≤ dhuhr + 180 * Gen.DEGREES_TO_10_BASE := by
  obtain ⟨-, rfl⟩ := getAsr_eq_some.mp h
  exact ⟨le_add_of_nonneg_right (arcHours_nonneg _), add_le_add_right (arcHours_le _) _⟩

/-- **so over ℝ the conversions of the conventional Dhuhr, Fajr, Isha and Asr to a clock time always
    succeed** (h < 24, m < 60, s < 60, wrap loop within fuel) for minute offsets within ±1500.
    Scope: the hours of `getHours` (policy None, no intervals).  Shurooq and Maghrib carry a Newton
    correction that no theorem here bounds, and the hours written by the replacing policies are
    not bounded here either (their conversion succeeds whenever the hour is ≥ −2.4·10⁶, Thm C11
    `hourToTime_ok`). -/
theorem angle_hours_convert (p : Params ℝ) (t : TopAstroDay ℝ) (w : Weather ℝ) (pr : Prayer) (x : ℝ)
    (hoff : |p.minutes pr| ≤ 1500)
    (hx : (getHours p t w).dhuhr = some x ∨ (getHours p t w).fajr = some x ∨ (getHours p t w).isha = some x ∨
      (getHours p t w).asr = some x) :
    ∃ tm, hourToTime p pr x = .ok tm := by
  have hd := dhuhr_bounds t w
  have h0 : 0 ≤ 180 * (Gen.DEGREES_TO_10_BASE : ℝ) := mul_nonneg (by norm_num) hpd_pos.le
  have hc : 180 * (Gen.DEGREES_TO_10_BASE : ℝ) ≤ 13 := by rw [c_DEGREES_TO_10_BASE]; norm_num
  have hb : (shurDhuhrMagh t w).2.1 - 180 * Gen.DEGREES_TO_10_BASE ≤ x ∧
      x ≤ (shurDhuhrMagh t w).2.1 + 180 * Gen.DEGREES_TO_10_BASE := by
    rcases hx with h | h | h | h
    · cases h; exact ⟨sub_le_self _ h0, le_add_of_nonneg_right h0⟩
    · exact twilight_bounds p.angFajr p.angIsha _ _ _ x (Or.inl h)
    · exact twilight_bounds p.angFajr p.angIsha _ _ _ x (Or.inr h)
    · obtain ⟨a, b⟩ := asr_bounds _ _ _ _ x h
      exact ⟨(sub_le_self _ h0).trans a, b⟩
  rw [abs_le] at hoff
  apply C11.hourToTime_ok
  · linear_combination hb.1 + hd.1 + (1 / 60) * hoff.1 + hc
  · linear_combination hb.2 + hd.2 + (1 / 60) * hoff.2 + hc

end real

-- non-vacuity: the hypothesis of `adjForExtLat_ok` is met by the shape of the original defect's
-- witness (interval-based Isha, Fajr/Isha invalid), and `getHours` always meets it
example : (⟨none, none, some (12.0 : Float), none, none, none⟩ : Hours Float).dhuhr.isSome = true := rfl

end IPT.C07
