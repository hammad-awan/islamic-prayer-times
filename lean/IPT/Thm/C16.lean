import IPT.Lemmas.Trig
import IPT.Model.Qibla
import IPT.Model.Fmt
import IPT.Thm.C18
/-
  C16 — Qibla is the great-circle bearing to the Kaaba.  Over ℝ: the reported angle is the angle,
  measured from true north towards WEST (counter-clockwise seen from above), of the direction from
  the observer to the Kaaba, computed from 3-D unit vectors; it lies in (-180°, 180°].  Elevation:
  the model function takes latitude and longitude only - a modelling choice that the translator backs
  (`Qibla::new` must not mention `elevation`, gen_consts group `qibla`) and the falsifier exercises
  with random elevations; `qibla_elevation_independent` states it for the record.  The one-decimal text (`impl Display for Qibla`) is modelled at the bit level in Model/Fmt.lean
  (units `fmt1`, `qtext`); `text_magnitude`, `text_label` below state what it shows.
-/
namespace IPT.C16
open IPT IPT.TrigLemmas Real

/-- the bearing of a place given as coordinates: elevation is carried along and not used -/
noncomputable def qiblaOf (c : Coords ℝ) : ℝ := qiblaDegrees c.lat c.lon

/-- changing only the elevation does not change the Qibla -/
theorem qibla_elevation_independent (c : Coords ℝ) (e : ℝ) : qiblaOf { c with elev := e } = qiblaOf c := rfl

/-- Kaaba coordinates used by the code: within 10⁻⁴° of 21.4233 N, 39.8233 E -/
theorem kaaba_coordinates :
    |(Gen.KAABA_LATITUDE : ℝ) - 21.4233| ≤ 1 / 10000 ∧ |(Gen.KAABA_LONGITUDE : ℝ) - 39.8233| ≤ 1 / 10000 := by
  rw [c_KAABA_LATITUDE, c_KAABA_LONGITUDE]
  norm_num [abs_le]

/-- unit vector of a point at latitude φ, longitude λ (radians) -/
noncomputable def unitVec (φ l : ℝ) : ℝ × ℝ × ℝ := (Real.cos φ * Real.cos l, Real.cos φ * Real.sin l, Real.sin φ)
/-- local north and WEST unit vectors at (φ, λ) -/
noncomputable def northVec (φ l : ℝ) : ℝ × ℝ × ℝ := (-Real.sin φ * Real.cos l, -Real.sin φ * Real.sin l, Real.cos φ)
noncomputable def westVec (l : ℝ) : ℝ × ℝ × ℝ := (Real.sin l, -Real.cos l, 0)
def dot (a b : ℝ × ℝ × ℝ) : ℝ := a.1 * b.1 + a.2.1 * b.2.1 + a.2.2 * b.2.2

theorem cos_kaaba_lat_pos : 0 < Real.cos (toRadians (Gen.KAABA_LATITUDE : ℝ)) := by
  have := Real.pi_pos
  rw [toRadians_real, c_KAABA_LATITUDE]
  exact Real.cos_pos_of_mem_Ioo ⟨(neg_lt_zero.mpr (by positivity)).trans (by positivity), by linarith⟩

/-- scaling a vector by a positive factor does not turn it -/
theorem arg_pos_mul (r a b : ℝ) (hr : 0 < r) : Complex.arg ⟨r * a, r * b⟩ = Complex.arg ⟨a, b⟩ := by
  rw [← Complex.arg_real_mul ⟨a, b⟩ hr]; congr 1; apply Complex.ext <;> simp

/-- **the Qibla angle is the bearing, counted from north towards west, of the Kaaba's direction**:
    atan2(K·west, K·north) with K the Kaaba's unit vector -/
theorem qibla_eq_vector_bearing (lat lon : ℝ) :
    let φ := toRadians lat
    let l := toRadians lon
    let K := unitVec (toRadians Gen.KAABA_LATITUDE) (toRadians Gen.KAABA_LONGITUDE)
    qiblaDegrees lat lon = toDegrees (Complex.arg ⟨dot K (northVec φ l), dot K (westVec l)⟩) := by
  intro φ l K
  have hc := cos_kaaba_lat_pos
  simp only [qiblaDegrees, sc_sin, sc_cos, sc_tan, sc_atan2]
  -- the code's (y, sin x) is the vector (K·north, K·west) divided by cos φK > 0
  rw [← arg_pos_mul _ _ _ hc]
  congr 3
  · simp only [dot, K, unitVec, northVec, Real.cos_sub, Real.tan_eq_sin_div_cos]; field_simp; ring
  · simp only [dot, K, unitVec, westVec, Real.sin_sub]; ring


/-- **expressed in (-180°, 180°]** -/
theorem qibla_range (lat lon : ℝ) : -180 < qiblaDegrees lat lon ∧ qiblaDegrees lat lon ≤ 180 := by
  have hneg : toDegrees (-π) = -180 := by rw [toDegrees_real, neg_mul, ← toDegrees_real, toDegrees_pi]
  rw [← hneg, ← toDegrees_pi]
  exact ⟨toDegrees_lt (Complex.neg_pi_lt_arg _), toDegrees_le (Complex.arg_le_pi _)⟩

/-- **the rotation label agrees with the sign**: clockwise (east of north) iff the angle is negative -/
theorem rotation_sign (deg : ℝ) : (rotation deg = .Cw ↔ deg < 0) ∧ (rotation deg = .Ccw ↔ 0 ≤ deg) := by
  simp only [rotation, sc_ltb, lit_zero, decide_eq_true_eq, ← not_lt]
  split <;> simp [*]

/-! ### The printed text (`{:.1}° CW|CCW`) agrees with the magnitude and the sign -/
section text
open IPT.F64

/-- round-half-even division gives the quotient or its successor, according to the side of d/2 the
    remainder is on -/
theorem roundDivEven_cases (n d : Nat) :
    roundDivEven n d = n / d ∧ 2 * (n % d) ≤ d ∨ roundDivEven n d = n / d + 1 ∧ d ≤ 2 * (n % d) := by
  simp only [roundDivEven]
  split
  · next h => exact .inl ⟨rfl, Nat.le_of_lt h⟩
  · next h1 =>
    split
    · next h => exact .inr ⟨rfl, Nat.le_of_lt h⟩
    · next h2 => split; exacts [.inl ⟨rfl, Nat.le_of_not_gt h2⟩, .inr ⟨rfl, Nat.le_of_not_lt h1⟩]

/-- round-half-even division is within half a unit: |q·d − n| ≤ d/2 -/
theorem roundDivEven_spec (n d : Nat) (hd : 0 < d) :
    2 * (roundDivEven n d * d) ≤ 2 * n + d ∧ 2 * n ≤ 2 * (roundDivEven n d * d) + d := by
  have hn := Nat.div_add_mod n d
  have hr := Nat.mod_lt n hd
  rw [Nat.mul_comm _ d]
  rcases roundDivEven_cases n d with ⟨e, h⟩ | ⟨e, h⟩ <;> rw [e]
  · omega
  · rw [Nat.mul_succ]; omega

/-- **the printed magnitude is the angle's magnitude to the nearest tenth**: with |x| =
    scaledMag m / 2^1074 the exact value of the magnitude bits and t the printed number of tenths
    (the text is `t/10 "." t%10`), |t/10 − |x|| ≤ 1/20 - stated without division:
    |2·t·2^1074 − 20·|x|·2^1074| ≤ 2^1074 -/
theorem text_magnitude (m : Nat) :
    2 * (tenthsOfMag m * 2 ^ 1074) ≤ 20 * scaledMag m + 2 ^ 1074 ∧
    20 * scaledMag m ≤ 2 * (tenthsOfMag m * 2 ^ 1074) + 2 ^ 1074 := by
  rw [show 20 * scaledMag m = 2 * (10 * scaledMag m) by omega]
  exact roundDivEven_spec _ _ (Nat.two_pow_pos _)

/-- a half-unit bound cleared of denominators, read back as a bound on the quotients -/
theorem abs_tenths_sub_le (t s D : ℕ) (hD : 0 < D)
    (h1 : 2 * (t * D) ≤ 20 * s + D) (h2 : 20 * s ≤ 2 * (t * D) + D) :
    |(t : ℚ) / 10 - (s : ℚ) / (D : ℚ)| ≤ 1 / 20 := by
  have p : (0 : ℚ) < D := by exact_mod_cast hD
  have h1' : 2 * ((t : ℚ) * D) ≤ 20 * s + D := by exact_mod_cast h1
  have h2' : 20 * (s : ℚ) ≤ 2 * ((t : ℚ) * D) + D := by exact_mod_cast h2
  rw [abs_le, neg_le_sub_iff_le_add, sub_le_comm, div_le_iff₀ p, le_div_iff₀ p]
  constructor <;> linarith only [h1', h2']

/-- the same over ℚ: the printed tenths differ from the exact magnitude by at most 0.05 -/
theorem text_magnitude_rat (m : Nat) :
    |(tenthsOfMag m : ℚ) / 10 - (scaledMag m : ℚ) / ((2 ^ 1074 : ℕ) : ℚ)| ≤ 1 / 20 :=
  abs_tenths_sub_le _ _ _ (Nat.two_pow_pos _) (text_magnitude m).1 (text_magnitude m).2

/-- **the printed label agrees with the sign**: `CW` is printed exactly when the angle is a number
    below zero (exact value of the bit pattern negative); zero, positive angles (and -0.0) print `CCW` -/
theorem text_label (b : Nat) :
    rotationIsCw b = true ↔ (isNaN b = false ∧ scaled b < 0) := by
  have h : key b < key 0 ↔ scaled b < scaled 0 := by rw [← not_le, ← not_le, C18.key_le_iff_scaled_le]
  simp only [rotationIsCw, lt, h, show isNaN 0 = false by decide, show scaled 0 = 0 by decide,
    Bool.and_eq_true, Bool.not_eq_true', decide_eq_true_eq, Bool.not_false, and_true]

/-- the text is the printed magnitude, a degree sign and the label, in that order -/
theorem text_shape (b : Nat) :
    qiblaText b = fmt1Abs b ++ "° " ++ (if rotationIsCw b then "CW" else "CCW") := rfl

/-- for a finite angle the printed magnitude is `t/10 "." t%10` with t = `tenthsOfMag` of the magnitude bits -/
theorem text_digits (b : Nat) (hf : isFinite b = true) :
    fmt1Abs b = toString (tenthsOfMag (magBits b) / 10) ++ "." ++ toString (tenthsOfMag (magBits b) % 10) := by
  rw [C18.isFinite_iff] at hf
  rw [fmt1Abs, if_neg (by rw [C18.isNaN_iff]; omega), if_neg (by rw [C18.isInf_iff]; omega)]

-- non-vacuity / examples: 0.25 and 0.75 are ties (printed 0.2 and 0.8: to even); -58.83° prints "58.8° CW"
example : tenthsOfMag (magBits 0x3fd0000000000000) = 2 ∧ tenthsOfMag (magBits 0x3fe8000000000000) = 8 := by decide +kernel

end text

/-- positive = west of north: due east of the Kaaba on its parallel the Kaaba lies to the west, K·west > 0 -/
example : dot (unitVec 0 0) (westVec (Real.pi / 2)) = 1 := by
  simp [dot, unitVec, westVec]

end IPT.C16
