import IPT.Thm.C08
/-
  C10 — nearest-latitude and portion-of-night fallbacks follow their stated formulas.
  End-to-end statements about `adjForExtLat` (guard, dispatch, writer, interval pass) for EVERY
  scalar type; the formulas are the ones in the property text, written in the scalar's own
  arithmetic (`24 - (M - S)` etc.), so over ℝ they are the stated quantities exactly.
  Scope: the formula theorems assume no Fajr/Isha interval (`NoIntervals`: the six angle-based
  named methods; for UmmAlQurra/FixedIsha the interval pass then overwrites Isha,
  `interval_definition_kept`), except the minutes-from-Maghrib ones, which need the intervals set.
-/
namespace IPT.C10
open IPT IPT.ExtLatLemmas
variable {α : Type} [Add α] [Sub α] [Mul α] [Div α] [Neg α] [OfScientific α] [Sc α]

/-- recomputation at the substitute latitude reuses the day's geocentric ephemeris and is the
    same as computing the topocentric day from scratch at the substitute coordinates -/
theorem newCoords_eq_fromJd (jd : JD α) (c c' : Coords α) : (topFromJd jd c).newCoords c' = topFromJd jd c' := rfl

/-- what the policy layer is given for a substitute latitude: the conventional hours at that
    latitude, same longitude, elevation and date -/
theorem nearLat_env (p : Params α) (jd : JD α) (c : Coords α) (w : Weather α) (l : α) :
    (envOf p (topFromJd jd c) w).nearLatHours l = getHours p (topFromJd jd { c with lat := l }) w := rfl

/-- no interval configured -/
def NoIntervals (p : Params α) : Prop := nonZero p.intFajr = false ∧ nonZero p.intIsha = false

theorem adjForInt_noIntervals (p : Params α) (h : PHours α) (hn : NoIntervals p) : adjForInt p h = .ok h := by
  simp [adjForInt_eq, intPass, intOut, hn.1, hn.2]

/-- **nearest latitude, all prayers**: Shurooq, Asr, Maghrib (and Fajr/Isha where they exist
    there) are exactly the conventional hours at the substitute latitude, all six flagged extreme.
    Dhuhr is NOT recomputed: the code keeps the site's own Dhuhr and flags it (the two differ only
    through the parallax term, which depends on latitude; no theorem bounds that difference - the
    falsifier compares within the property's 3 s). -/
theorem nearLat_all (p : Params α) (hours : Hours α) (env : Env α) (l : α) (d : α)
    (hp : p.policy = .NearestLatitudeAllPrayersAlways l) (hn : NoIntervals p) (hd : hours.dhuhr = some d) :
    ∃ r, adjForExtLat p hours env = .ok r ∧
      r.shur = (env.nearLatHours l).shur.map PH.ext ∧ r.asr = (env.nearLatHours l).asr.map PH.ext ∧
      r.magh = (env.nearLatHours l).magh.map PH.ext ∧ r.dhuhr = some ⟨d, true⟩ ∧
      (∀ v, (env.nearLatHours l).fajr = some v → r.fajr = some ⟨v, true⟩) ∧
      (∀ v, (env.nearLatHours l).isha = some v → r.isha = some ⟨v, true⟩) := by
  unfold adjForExtLat applyPolicy
  simp only [canAdj, hp, Policy.isNone, Gen.isAlways, Gen.dispatch, Bool.not_false, Bool.or_true, Bool.and_self, if_true]
  unfold adjNearLat
  simp only [hp, Policy.isNearLatFIInvalid, Policy.isNearLatAll, Bool.not_false, Bool.true_or, if_true]
  cases hf : (env.nearLatHours l).fajr <;> cases hi : (env.nearLatHours l).isha <;>
    simp [Hours.toPH, hd, adjForInt_noIntervals _ _ hn, PH.ext, PH.conv]

/-- **nearest latitude, Fajr/Isha always**: exactly those two are taken from the substitute latitude -/
theorem nearLat_fajrIsha (p : Params α) (hours : Hours α) (env : Env α) (l vf vi : α)
    (hp : p.policy = .NearestLatitudeFajrIshaAlways l) (hn : NoIntervals p)
    (hf : (env.nearLatHours l).fajr = some vf) (hi : (env.nearLatHours l).isha = some vi) :
    adjForExtLat p hours env = .ok { hours.toPH with fajr := some ⟨vf, true⟩, isha := some ⟨vi, true⟩ } := by
  unfold adjForExtLat applyPolicy
  simp only [canAdj, hp, Policy.isNone, Gen.isAlways, Gen.dispatch, Bool.not_false, Bool.or_true, Bool.and_self, if_true]
  unfold adjNearLat
  simp [hp, Policy.isNearLatFIInvalid, Policy.isNearLatAll, hf, hi, adjForInt_noIntervals _ _ hn, PH.ext]

/-- **seventh of the night / of the day (always)**: Fajr = Shurooq − p, Isha = Maghrib + p with
    p = (24 − (Maghrib − Shurooq))/7 resp. (Maghrib − Shurooq)/7, both flagged extreme -/
theorem seventh_always (p : Params α) (hours : Hours α) (env : Env α) (s m : α) (hn : NoIntervals p)
    (hs : hours.shur = some s) (hm : hours.magh = some m) :
    (p.policy = .SeventhOfNightFajrIshaAlways →
      adjForExtLat p hours env = .ok { hours.toPH with
        fajr := some ⟨s - (Gen.HRS_PER_DAY - (m - s)) / 7.0, true⟩,
        isha := some ⟨m + (Gen.HRS_PER_DAY - (m - s)) / 7.0, true⟩ }) ∧
    (p.policy = .SeventhOfDayFajrIshaAlways →
      adjForExtLat p hours env = .ok { hours.toPH with
        fajr := some ⟨s - (m - s) / 7.0, true⟩, isha := some ⟨m + (m - s) / 7.0, true⟩ }) := by
  constructor <;> intro hp <;>
    simp [adjForExtLat, applyPolicy, canAdj, hp, Policy.isNone, Gen.isAlways, Gen.dispatch, adjSevHalf,
      Hours.toPH, hs, hm, Policy.portionKind, portionOf, Policy.isSevHalfAlways, Policy.isHalfAlways,
      adjForInt_noIntervals _ _ hn, PH.ext, PH.conv]

/-- **seventh of the night / day (only if invalid)** on a day where Fajr is missing and Isha is not -/
theorem seventh_invalid_fajr (p : Params α) (hours : Hours α) (env : Env α) (s m i : α) (hn : NoIntervals p)
    (hp : p.policy = .SeventhOfNightFajrIshaInvalid)
    (hf : hours.fajr = none) (hs : hours.shur = some s) (hm : hours.magh = some m) (hi : hours.isha = some i) :
    adjForExtLat p hours env = .ok { hours.toPH with fajr := some ⟨s - (Gen.HRS_PER_DAY - (m - s)) / 7.0, true⟩ } := by
  simp [adjForExtLat, applyPolicy, canAdj, hp, Policy.isNone, Gen.isAlways, Gen.dispatch, adjSevHalf,
    Hours.toPH, hf, hs, hm, hi, PHours.hasInv, Policy.portionKind, portionOf, Policy.isSevHalfAlways, Policy.isHalfInvalid,
    adjForInt_noIntervals _ _ hn, PH.ext, PH.conv]

/-- the mirror case: Isha is missing and Fajr is not - under both only-if-invalid seventh policies
    (night: p = (24 − (M − S))/7, day: p = (M − S)/7) the missing one is written, flagged; the other kept -/
theorem seventh_invalid_isha (p : Params α) (hours : Hours α) (env : Env α) (f s m : α) (hn : NoIntervals p)
    (hf : hours.fajr = some f) (hs : hours.shur = some s) (hm : hours.magh = some m) (hi : hours.isha = none) :
    (p.policy = .SeventhOfNightFajrIshaInvalid →
      adjForExtLat p hours env = .ok { hours.toPH with isha := some ⟨m + (Gen.HRS_PER_DAY - (m - s)) / 7.0, true⟩ }) ∧
    (p.policy = .SeventhOfDayFajrIshaInvalid →
      adjForExtLat p hours env = .ok { hours.toPH with isha := some ⟨m + (m - s) / 7.0, true⟩ }) := by
  constructor <;> intro hp <;>
    simp [adjForExtLat, applyPolicy, canAdj, hp, Policy.isNone, Gen.isAlways, Gen.dispatch, adjSevHalf,
      Hours.toPH, hf, hs, hm, hi, PHours.hasInv, Policy.portionKind, portionOf, Policy.isSevHalfAlways, Policy.isHalfInvalid,
      adjForInt_noIntervals _ _ hn, PH.ext, PH.conv]

/-- seventh of the DAY, only if invalid, Fajr missing (the night variant is `seventh_invalid_fajr`) -/
theorem seventh_day_invalid_fajr (p : Params α) (hours : Hours α) (env : Env α) (s m i : α) (hn : NoIntervals p)
    (hp : p.policy = .SeventhOfDayFajrIshaInvalid)
    (hf : hours.fajr = none) (hs : hours.shur = some s) (hm : hours.magh = some m) (hi : hours.isha = some i) :
    adjForExtLat p hours env = .ok { hours.toPH with fajr := some ⟨s - (m - s) / 7.0, true⟩ } := by
  simp [adjForExtLat, applyPolicy, canAdj, hp, Policy.isNone, Gen.isAlways, Gen.dispatch, adjSevHalf,
    Hours.toPH, hf, hs, hm, hi, PHours.hasInv, Policy.portionKind, portionOf, Policy.isSevHalfAlways, Policy.isHalfInvalid,
    adjForInt_noIntervals _ _ hn, PH.ext, PH.conv]

/-- **nearest latitude, Fajr/Isha only if invalid**: a missing Fajr (Isha) is taken from the
    substitute latitude and flagged, an existing one is kept as it is; nothing else changes -/
theorem nearLat_fajrIsha_invalid (p : Params α) (hours : Hours α) (env : Env α) (l vf vi : α)
    (hp : p.policy = .NearestLatitudeFajrIshaInvalid l) (hn : NoIntervals p)
    (hinv : hours.toPH.hasInv = true)
    (hf : (env.nearLatHours l).fajr = some vf) (hi : (env.nearLatHours l).isha = some vi) :
    adjForExtLat p hours env = .ok { hours.toPH with
      fajr := if hours.fajr.isNone then some ⟨vf, true⟩ else hours.toPH.fajr,
      isha := if hours.isha.isNone then some ⟨vi, true⟩ else hours.toPH.isha } := by
  have hcan : canAdj hours.toPH p.policy = true := by simp [canAdj, hp, Policy.isNone, hinv]
  unfold adjForExtLat applyPolicy
  rw [if_pos hcan]
  simp only [hp, Gen.dispatch]
  unfold adjNearLat
  cases h1 : hours.fajr <;> cases h2 : hours.isha <;>
    simp [hp, Policy.isNearLatFIInvalid, Policy.isNearLatAll, hf, hi, Hours.toPH, h1, h2,
      adjForInt_noIntervals _ _ hn, PH.ext, PH.conv]

/-- **angle-based**, on a day where some time is missing: Fajr = Shurooq − (FajrAngle/60)·night,
    Isha = Maghrib + (IshaAngle/60)·night, night = 24 − Maghrib + Shurooq; both flagged extreme -/
theorem angle_based (p : Params α) (hours : Hours α) (env : Env α) (s m : α) (hn : NoIntervals p)
    (hp : p.policy = .AngleBased) (hinv : hours.toPH.hasInv = true)
    (hs : hours.shur = some s) (hm : hours.magh = some m) :
    adjForExtLat p hours env = .ok { hours.toPH with
      fajr := some ⟨s - 1.0 / Gen.MIN_SEC_PER_HR_MIN * p.angFajr * (Gen.HRS_PER_DAY - m + s), true⟩,
      isha := some ⟨m + 1.0 / Gen.MIN_SEC_PER_HR_MIN * p.angIsha * (Gen.HRS_PER_DAY - m + s), true⟩ } := by
  have hcan : canAdj hours.toPH p.policy = true := by simp [canAdj, hp, Policy.isNone, hinv]
  unfold adjForExtLat applyPolicy
  rw [if_pos hcan]
  simp [hp, Gen.dispatch, angleBased, Hours.toPH, hs, hm, adjForInt_noIntervals _ _ hn, PH.ext, PH.conv]

/-- **minutes from Maghrib (always)**: Fajr = Shurooq − FajrInterval, Isha = Maghrib + IshaInterval, flagged extreme -/
theorem minutes_always (p : Params α) (hours : Hours α) (env : Env α) (s m : α)
    (hp : p.policy = .MinutesFromMaghribFajrIshaAlways)
    (hzF : nonZero p.intFajr = true) (hzI : nonZero p.intIsha = true)
    (hs : hours.shur = some s) (hm : hours.magh = some m) :
    adjForExtLat p hours env = .ok { hours.toPH with
      fajr := some ⟨s - p.intFajr / Gen.MIN_SEC_PER_HR_MIN, true⟩,
      isha := some ⟨m + p.intIsha / Gen.MIN_SEC_PER_HR_MIN, true⟩ } := by
  simp [adjForExtLat, applyPolicy, canAdj, hp, Policy.isNone, Gen.isAlways, Gen.dispatch, adjMinAlways, Hours.toPH,
    hs, hm, adjForInt_eq, intPass, intOut, Gen.intExcluded, hzF, hzI, flagOf, PH.conv]

/-- **minutes from Maghrib (only if invalid)** on a day where both twilights are missing -/
theorem minutes_invalid (p : Params α) (hours : Hours α) (env : Env α) (s m : α)
    (hp : p.policy = .MinutesFromMaghribFajrIshaInvalid)
    (hf : hours.fajr = none) (hi : hours.isha = none) (hs : hours.shur = some s) (hm : hours.magh = some m) :
    adjForExtLat p hours env = .ok { hours.toPH with
      fajr := some ⟨s - p.intFajr / Gen.MIN_SEC_PER_HR_MIN, true⟩,
      isha := some ⟨m + p.intIsha / Gen.MIN_SEC_PER_HR_MIN, true⟩ } := by
  simp [adjForExtLat, applyPolicy, canAdj, hp, Policy.isNone, PHours.hasInv, Gen.dispatch, adjMinInv, Hours.toPH,
    hf, hi, hs, hm, adjForInt, Gen.intExcluded, PH.conv]

/-- **an Isha that the method defines by an interval keeps that definition** under every
    policy the interval pass does not skip: Isha = (policy's Maghrib) + interval (the Fajr half,
    Fajr = (policy's Shurooq) − interval, and both together are Thm C12 `isha_fajr_interval`); and **every replaced value is flagged extreme** — Thm C08
    `unflagged_is_conventional`.  Re-exported here for the record. -/
theorem interval_definition_kept (p : Params α) (hours : Hours α) (env : Env α) (h1 r : PHours α)
    (hE : ¬ Gen.intExcluded p.policy = true) (hz : nonZero p.intIsha = true)
    (hap : applyPolicy p hours.toPH env = .ok h1) (hr : adjForExtLat p hours env = .ok r) :
    r.isha = h1.magh.map fun (x : PH α) => ⟨x.value + p.intIsha / Gen.MIN_SEC_PER_HR_MIN, flagOf h1.isha⟩ := by
  rw [adjForExtLat_of_policy hap, adjForInt_eq] at hr
  rw [← Except.ok.inj hr]
  simp [intPass, intOut, hE, hz]

-- non-vacuity: the angle-based method tables have no intervals
example : NoIntervals (paramsNew .Mwl : Params Float) := by
  constructor <;> simp [paramsNew, nonZero, Gen.methodRow] <;> rfl

end IPT.C10
