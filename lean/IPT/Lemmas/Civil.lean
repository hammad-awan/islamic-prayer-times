import IPT.Model.Civil
/- civil-calendar lemmas: `toRD` and `fromRD` are inverse bijections between calendar dates and day
   numbers (all ℤ).  Years: `daysBeforeYear` is strictly increasing with steps 365/366, and the
   400/100/4/1 cascade of `yearOfRD` inverts it.  Months: `dbm` (below) is the month table, and the
   formula `(12·(p + corr) + 373)/367` of `fromRD` inverts it. -/
namespace IPT.CivilLemmas
open IPT

theorem toRD_jan1 (y : Int) : toRD ⟨y, 1, 1⟩ = daysBeforeYear y + 1 := by
  simp [toRD, daysBeforeMonth]

theorem daysBeforeYear_lt {y y' : Int} (h : y < y') : daysBeforeYear y + 365 ≤ daysBeforeYear y' := by
  unfold daysBeforeYear; omega

theorem daysBeforeYear_succ (y : Int) :
    daysBeforeYear (y + 1) = daysBeforeYear y + 365 + (if isLeap y then 1 else 0) := by
  simp only [daysBeforeYear, isLeap, Bool.or_eq_true, Bool.and_eq_true, beq_iff_eq, bne_iff_ne, ne_eq]
  split <;> omega

/-- the first day of a year whose predecessor has the digits a, b, c, d in the mixed radix
    400/100/4/1 of the Gregorian cycle -/
theorem daysBeforeYear_digits (a b c d : Int) (hb : 0 ≤ b ∧ b ≤ 3) (hc : 0 ≤ c ∧ c ≤ 24) (hd : 0 ≤ d ∧ d ≤ 3) :
    daysBeforeYear (400 * a + 100 * b + 4 * c + d + 1) = 146097 * a + 36524 * b + 1461 * c + 365 * d := by
  unfold daysBeforeYear; omega

/-- where the digits overflow (b = 4 or d = 4: the cascade of `yearOfRD` has reached the last day of a
    leap year) the year 400a + 100b + 4c + d is that leap year itself -/
theorem daysBeforeYear_leapEnd (a b c d : Int)
    (h : (b = 4 ∧ c = 0 ∧ d = 0) ∨ (d = 4 ∧ 0 ≤ b ∧ b ≤ 3 ∧ 0 ≤ c ∧ c ≤ 23)) :
    daysBeforeYear (400 * a + 100 * b + 4 * c + d + 1) = 146097 * a + 36524 * b + 1461 * c + 365 * d + 1 ∧
    daysBeforeYear (400 * a + 100 * b + 4 * c + d) = 146097 * a + 36524 * b + 1461 * c + 365 * d - 365 := by
  unfold daysBeforeYear; omega

theorem ediv_emod (x k : Int) (hk : 0 < k) : x = k * (x / k) + x % k ∧ 0 ≤ x % k ∧ x % k < k :=
  ⟨(Int.mul_ediv_add_emod x k).symm, Int.emod_nonneg x (Int.ne_of_gt hk), Int.emod_lt_of_pos x hk⟩

theorem yearOfRD_spec (n : Int) : toRD ⟨yearOfRD n, 1, 1⟩ ≤ n ∧ n < toRD ⟨yearOfRD n + 1, 1, 1⟩ := by
  simp only [toRD_jan1, yearOfRD]
  -- the digits a, b, c, d of the cascade and its remainders, as linear facts
  have f1 := ediv_emod (n - 1) 146097 (by decide)
  generalize (n - 1) / 146097 = a, (n - 1) % 146097 = r1 at *
  have f2 := ediv_emod r1 36524 (by decide)
  generalize r1 / 36524 = b, r1 % 36524 = r2 at *
  have f3 := ediv_emod r2 1461 (by decide)
  generalize r2 / 1461 = c, r2 % 1461 = r3 at *
  have f4 := ediv_emod r3 365 (by decide)
  generalize r3 / 365 = d, r3 % 365 = r4 at *
  split
  · have := daysBeforeYear_leapEnd a b c d (by omega)
    omega
  · have := daysBeforeYear_digits a b c d (by omega) (by omega) (by omega)
    have := daysBeforeYear_lt (Int.lt_succ (400 * a + 100 * b + 4 * c + d + 1))
    omega

theorem yearLen (y : Int) : toRD ⟨y + 1, 1, 1⟩ = toRD ⟨y, 1, 1⟩ + 365 + (if isLeap y then 1 else 0) := by
  simp only [toRD_jan1, daysBeforeYear_succ]; omega

theorem yearStart_mono (y y' : Int) (h : y ≤ y') : toRD ⟨y, 1, 1⟩ ≤ toRD ⟨y', 1, 1⟩ := by
  rcases Int.lt_or_eq_of_le h with h | rfl
  · have := daysBeforeYear_lt h; simp only [toRD_jan1]; omega
  · exact Int.le_refl _

theorem yearOfRD_unique (n y : Int) (h1 : toRD ⟨y, 1, 1⟩ ≤ n) (h2 : n < toRD ⟨y + 1, 1, 1⟩) : yearOfRD n = y := by
  have hs := yearOfRD_spec n
  rcases Int.lt_trichotomy (yearOfRD n) y with h | h | h
  · have := yearStart_mono (yearOfRD n + 1) y h; omega
  · exact h
  · have := yearStart_mono (y + 1) (yearOfRD n) h; omega

/-- offset of the first day of month m within a year (lp = 1 in leap years), as in `daysBeforeMonth` -/
def dbm (lp m : Int) : Int := (367 * m - 362) / 12 + (if m ≤ 2 then 0 else lp - 2)

theorem daysBeforeMonth_eq (y m : Int) : daysBeforeMonth y m = dbm (if isLeap y then 1 else 0) m := by
  unfold daysBeforeMonth dbm
  cases isLeap y <;> simp

/-- the month formula of `fromRD`, as a function of the leap indicator and the day offset p within the year -/
def monthOf (lp p : Int) : Int := (12 * (p + if p < 59 + lp then 0 else 2 - lp) + 373) / 367

theorem monthOf_spec (lp p : Int) (hlp : lp = 0 ∨ lp = 1) (h0 : 0 ≤ p) (h1 : p < 365 + lp) :
    1 ≤ monthOf lp p ∧ monthOf lp p ≤ 12 ∧ dbm lp (monthOf lp p) ≤ p ∧ p < dbm lp (monthOf lp p + 1) := by
  simp only [monthOf, dbm]
  split <;> split <;> split <;> omega

/-- days in month m of a year with leap indicator lp -/
def dim (lp m : Int) : Int := dbm lp (m + 1) - dbm lp m

theorem dim_values (lp : Int) : dim lp 1 = 31 ∧ dim lp 2 = 28 + lp ∧ dim lp 3 = 31 ∧ dim lp 4 = 30 ∧ dim lp 5 = 31 ∧
    dim lp 6 = 30 ∧ dim lp 7 = 31 ∧ dim lp 8 = 31 ∧ dim lp 9 = 30 ∧ dim lp 10 = 31 ∧ dim lp 11 = 30 ∧ dim lp 12 = 31 := by
  simp [dim, dbm]; omega

theorem dim_le (lp m : Int) (hlp : lp ≤ 1) (h1 : 1 ≤ m) (h12 : m ≤ 12) : dim lp m ≤ 31 := by
  simp only [dim, dbm]; split <;> split <;> omega

theorem leap_zero_or_one (y : Int) : (if isLeap y then (1 : Int) else 0) = 0 ∨ (if isLeap y then (1 : Int) else 0) = 1 := by
  split <;> simp

theorem toRD_eq (y m d : Int) :
    toRD ⟨y, m, d⟩ = toRD ⟨y, 1, 1⟩ + dbm (if isLeap y then 1 else 0) m + (d - 1) := by
  simp only [toRD, daysBeforeMonth_eq, dbm]; omega

theorem lt_mar1 (n y : Int) : n < toRD ⟨y, 3, 1⟩ ↔ n - toRD ⟨y, 1, 1⟩ < 59 + (if isLeap y then 1 else 0) := by
  rw [toRD_eq y 3 1]; simp only [dbm]; omega

/-- `fromRD` in terms of the day offset within the year: the year of the cascade, the month of
    `monthOf`, the day counted from the first of that month -/
theorem fromRD_eq (n : Int) :
    fromRD n = ⟨yearOfRD n, monthOf (if isLeap (yearOfRD n) then 1 else 0) (n - toRD ⟨yearOfRD n, 1, 1⟩),
      n - toRD ⟨yearOfRD n, 1, 1⟩ - dbm (if isLeap (yearOfRD n) then 1 else 0)
        (monthOf (if isLeap (yearOfRD n) then 1 else 0) (n - toRD ⟨yearOfRD n, 1, 1⟩)) + 1⟩ := by
  have hc : (if isLeap (yearOfRD n) then (1 : Int) else 2) = 2 - (if isLeap (yearOfRD n) then 1 else 0) := by
    split <;> rfl
  simp only [fromRD, lt_mar1, hc, monthOf, Date.mk.injEq, true_and]
  rw [toRD_eq]; omega

/-- **`fromRD n` is a valid calendar date whose day number is n** (month 1..12, day 1..31, within
    the year `yearOfRD n`) — for every integer n -/
theorem fromRD_valid (n : Int) :
    1 ≤ (fromRD n).m ∧ (fromRD n).m ≤ 12 ∧ 1 ≤ (fromRD n).d ∧ (fromRD n).d ≤ 31 ∧ toRD (fromRD n) = n ∧
    (fromRD n).y = yearOfRD n := by
  have hy := yearOfRD_spec n
  have hl := yearLen (yearOfRD n)
  have hlp := leap_zero_or_one (yearOfRD n)
  rw [fromRD_eq, toRD_eq _ (monthOf _ _)]
  dsimp only
  generalize (if isLeap (yearOfRD n) = true then (1 : Int) else 0) = lp at *
  obtain ⟨k1, k2, k3, k4⟩ := monthOf_spec lp (n - toRD ⟨yearOfRD n, 1, 1⟩) hlp (by omega) (by omega)
  have := dim_le lp _ (by omega) k1 k2
  unfold dim at this
  exact ⟨k1, k2, by omega, by omega, by omega, rfl⟩

/-- a calendar date: month 1..12, day 1..length of that month -/
def ValidDate (dt : Date) : Prop :=
  1 ≤ dt.m ∧ dt.m ≤ 12 ∧ 1 ≤ dt.d ∧ dt.d ≤ dim (if isLeap dt.y then 1 else 0) dt.m

theorem offset_valid (lp m d : Int) (hlp : lp = 0 ∨ lp = 1) (hm1 : 1 ≤ m) (hm12 : m ≤ 12) (hd1 : 1 ≤ d)
    (hd : d ≤ dim lp m) :
    0 ≤ dbm lp m + (d - 1) ∧ dbm lp m + (d - 1) < 365 + lp ∧ monthOf lp (dbm lp m + (d - 1)) = m := by
  simp only [monthOf, dim, dbm] at *
  split at hd <;> split at hd <;> split <;> omega

theorem valid_within_year (dt : Date) (h : ValidDate dt) :
    toRD ⟨dt.y, 1, 1⟩ ≤ toRD dt ∧ toRD dt < toRD ⟨dt.y + 1, 1, 1⟩ := by
  obtain ⟨o1, o2, _⟩ := offset_valid _ _ _ (leap_zero_or_one dt.y) h.1 h.2.1 h.2.2.1 h.2.2.2
  rw [yearLen, toRD_eq dt.y dt.m dt.d]
  omega

/-- **the calendar dates of the years 1 to 9999 are exactly the day numbers 1 to 3 652 059** (one
    direction; the other is `fromRD_valid`): chrono's `NaiveDate` range used by the Hijri theorems -/
theorem valid_date_range (dt : Date) (h : ValidDate dt) (h1 : 1 ≤ dt.y) (h2 : dt.y ≤ 9999) :
    1 ≤ toRD dt ∧ toRD dt ≤ 3652059 := by
  obtain ⟨a, b⟩ := valid_within_year dt h
  have lo := yearStart_mono 1 dt.y h1
  have hi := yearStart_mono (dt.y + 1) 10000 (by omega)
  have e1 : toRD ⟨1, 1, 1⟩ = 1 := by decide
  have e2 : toRD ⟨10000, 1, 1⟩ = 3652060 := by decide
  omega

/-- **`fromRD` inverts `toRD` on every calendar date** (with `fromRD_valid`: the dates and the day
    numbers are in bijection - chrono's contract for `NaiveDate` arithmetic) -/
theorem fromRD_toRD (dt : Date) (h : ValidDate dt) : fromRD (toRD dt) = dt := by
  obtain ⟨w1, w2⟩ := valid_within_year dt h
  obtain ⟨_, _, o3⟩ := offset_valid _ _ _ (leap_zero_or_one dt.y) h.1 h.2.1 h.2.2.1 h.2.2.2
  have e : toRD dt - toRD ⟨dt.y, 1, 1⟩ = dbm (if isLeap dt.y then 1 else 0) dt.m + (dt.d - 1) := by
    rw [toRD_eq dt.y dt.m dt.d]; omega
  rw [fromRD_eq, yearOfRD_unique _ _ w1 w2, e, o3]
  congr 1; omega

end IPT.CivilLemmas
