import IPT.Real.Consts
import IPT.Model.Angle
import Mathlib.Tactic.Linarith
import Mathlib.Tactic.Ring
import Mathlib.Tactic.Positivity
/- angle normalisation over ℝ: range and "differs from x by a whole number of turns".  Every reduction is
   a multiple of the fractional part `Int.fract` of x / cap; the sign tests of the code never fire. -/
namespace IPT.AngleLemmas
open IPT

/-- cap_angle_1: into [0,1), differing from x by an integer -/
theorem capAngle1_spec (x : ℝ) : 0 ≤ capAngle1 x ∧ capAngle1 x < 1 ∧ capAngle1 x = x - ⌊x⌋ := by
  have e : capAngle1 x = x - ⌊x⌋ := by
    simp only [capAngle1, sc_floor, sc_ltb, lit_zero, decide_eq_true_eq]
    exact if_neg (Int.fract_nonneg x).not_gt
  exact ⟨e ▸ Int.fract_nonneg x, e ▸ Int.fract_lt_one x, e⟩

theorem capAngle_eq (x cap : ℝ) : capAngle x cap = cap * Int.fract (x / cap) := by
  simp only [capAngle, sc_floor, sc_ltb, lit_zero, Int.self_sub_floor, decide_eq_true_eq]
  rcases (Int.fract_nonneg (x / cap)).eq_or_lt with h | h
  · simp [← h]
  · rw [if_pos h]

/-- cap_angle(x, cap) for cap > 0: into [0,cap), differing from x by a multiple of cap -/
theorem capAngle_spec (x cap : ℝ) (hc : 0 < cap) :
    0 ≤ capAngle x cap ∧ capAngle x cap < cap ∧ capAngle x cap = x - cap * ⌊x / cap⌋ := by
  rw [capAngle_eq]
  exact ⟨mul_nonneg hc.le (Int.fract_nonneg _), mul_lt_of_lt_one_right hc (Int.fract_lt_one _),
    by rw [Int.fract, mul_sub, mul_div_cancel₀ _ hc.ne']⟩

theorem capAngle_of_mem {y cap : ℝ} (h0 : 0 ≤ y) (h1 : y < cap) : capAngle y cap = y := by
  have hc := h0.trans_lt h1
  rw [capAngle_eq, Int.fract_eq_self.mpr ⟨div_nonneg h0 hc.le, (div_lt_one hc).mpr h1⟩, mul_div_cancel₀ _ hc.ne']

theorem capAngle360_spec (x : ℝ) :
    0 ≤ capAngle360 x ∧ capAngle360 x < 360 ∧ capAngle360 x = x - 360 * ⌊x / 360⌋ := by
  have := capAngle_spec x 360 (by norm_num)
  simpa only [capAngle360, c_TWO_PI_DEG] using this

theorem capAngle360_periodic (y : ℝ) (k : ℤ) : capAngle360 (y + 360 * k) = capAngle360 y := by
  simp only [capAngle360, capAngle_eq, c_TWO_PI_DEG]
  rw [add_div, mul_div_cancel_left₀ _ (by norm_num), Int.fract_add_intCast]

/-- cap_angle_between_180 moves the upper half of cap_angle_360's range down by a turn -/
theorem capAngleBetween180_eq (x : ℝ) :
    capAngleBetween180 x = if 180 < capAngle360 x then capAngle360 x - 360 else capAngle360 x := by
  obtain ⟨h0, -, -⟩ := capAngle360_spec x
  rw [capAngle360, capAngle_eq, c_TWO_PI_DEG, mul_comm] at *
  simp only [capAngleBetween180, sc_floor, sc_ltb, c_TWO_PI_DEG, c_PI_DEG, Int.self_sub_floor, decide_eq_true_eq]
  rw [if_neg (by linarith)]

/-- cap_angle_between_180: into (-180, 180], differing from x by a multiple of 360 -/
theorem capAngleBetween180_spec (x : ℝ) :
    -180 < capAngleBetween180 x ∧ capAngleBetween180 x ≤ 180 ∧ ∃ k : ℤ, capAngleBetween180 x = x - 360 * k := by
  obtain ⟨h0, h1, e⟩ := capAngle360_spec x
  rw [capAngleBetween180_eq]
  split
  · exact ⟨by linarith, by linarith, ⌊x / 360⌋ + 1, by rw [e]; push_cast; ring⟩
  · exact ⟨by linarith, not_lt.mp ‹_›, _, e⟩

theorem capBetween180_periodic (y : ℝ) (k : ℤ) : capAngleBetween180 (y + 360 * k) = capAngleBetween180 y := by
  rw [capAngleBetween180_eq, capAngleBetween180_eq, capAngle360_periodic]

end IPT.AngleLemmas
