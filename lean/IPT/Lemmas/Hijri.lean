import IPT.Model.Hijri
/- Integer arithmetic of the tabular calendar for Thm/C17.  A day number g is `yearStart y + p` with p the
   offset within the year y, and p is `monthStart m + (d - 1)`; the closed forms `tabYear`, `tabMonthOf`
   recover y from g and m from p, and the model's search loops find the same values. -/
namespace IPT.HijriLemmas
open IPT

/-- day number of 1 Muharram of year y -/
def yearStart (y : Int) : Int := 354 * (y - 1) + (3 + 11 * y) / 30 + 227015

theorem epoch_eq : Gen.HIJRI_EPOCH = 227015 := by decide

/-- closed-form year of the tabular calendar (Reingold–Dershowitz) -/
def tabYear (g : Int) : Int := (30 * (g - 227015) + 10646) / 10631

theorem tabYear_spec (g : Int) : yearStart (tabYear g) ≤ g ∧ g < yearStart (tabYear g + 1) := by
  unfold yearStart tabYear; omega

theorem yearStart_mono {a b : Int} (h : a ≤ b) : yearStart a ≤ yearStart b := by
  unfold yearStart; omega

theorem tabYear_unique {g y : Int} (h1 : yearStart y ≤ g) (h2 : g < yearStart (y + 1)) : tabYear g = y := by
  have ⟨s1, s2⟩ := tabYear_spec g
  have := @yearStart_mono (tabYear g + 1) y
  have := @yearStart_mono (y + 1) (tabYear g)
  omega

theorem yearLen (y : Int) :
    yearStart (y + 1) - yearStart y = if (11 * y + 14) % 30 < 11 then 355 else 354 := by
  unfold yearStart
  rw [show 3 + 11 * (y + 1) = 11 * y + 14 by omega]
  split <;> omega

theorem yearLen_bounds (y : Int) :
    yearStart y + 354 ≤ yearStart (y + 1) ∧ yearStart (y + 1) ≤ yearStart y + 355 := by
  have := yearLen y; omega

/-- days of a year before its month m (odd months have 30 days, even ones 29) -/
def monthStart (m : Int) : Int := 29 * (m - 1) + m / 2

theorem monthStart_mono {a b : Int} (h : a ≤ b) : monthStart a ≤ monthStart b := by
  unfold monthStart; omega

theorem monthStart_succ (m : Int) : monthStart (m + 1) = monthStart m + if m % 2 = 1 then 30 else 29 := by
  unfold monthStart; omega

theorem hijriAbsDate_eq (d m y : Int) : hijriAbsDate d m y = yearStart y + (monthStart m + (d - 1)) := by
  simp only [hijriAbsDate, yearStart, monthStart, epoch_eq]; omega

theorem yearStart_eq (y : Int) : hijriAbsDate 1 1 y = yearStart y := by
  rw [hijriAbsDate_eq]; unfold monthStart; omega

/-- closed-form month of the tabular calendar, from the offset within the year -/
def tabMonthOf (p : Int) : Int := (11 * p + 330) / 325

/-- offset p lies in the span of month `tabMonthOf p`; the last span also holds the leap day, p = 354 -/
theorem tabMonthOf_spec {p : Int} (h0 : 0 ≤ p) (h1 : p ≤ 354) :
    1 ≤ tabMonthOf p ∧ tabMonthOf p ≤ 12 ∧ monthStart (tabMonthOf p) ≤ p ∧
      (p < monthStart (tabMonthOf p + 1) ∨ tabMonthOf p = 12) := by
  unfold tabMonthOf monthStart; omega

theorem tabMonthOf_eq {p m : Int} (h1 : 1 ≤ m) (h12 : m ≤ 12) (hlo : monthStart m ≤ p)
    (hhi : p < monthStart (m + 1) ∨ (m = 12 ∧ p ≤ 354)) : tabMonthOf p = m := by
  unfold tabMonthOf monthStart at *; omega

/- The three searches of the model run on fuel; each stops at the unique point where its guard flips,
   provided the fuel exceeds the distance from the start to that point.  In the year searches the two
   instances of `yearStart_mono` let `omega` read the guard as a comparison of y with T. -/

theorem yearFwd_spec {g T : Int} (hT1 : yearStart T ≤ g) (hT2 : g < yearStart (T + 1))
    (hc : Gen.yearFwdCmp = .ge) (n : Nat) (y : Int) (hy : y ≤ T) (hn : T - y < n) :
    yearFwd g n y = some T := by
  induction n generalizing y with
  | zero => omega
  | succ n ih =>
    have := @yearStart_mono (y + 1) T
    have := @yearStart_mono (T + 1) (y + 1)
    simp only [yearFwd, hc, Cmp.eval, yearStart_eq, ge_iff_le, decide_eq_true_eq]
    split
    · exact ih _ (by omega) (by omega)
    · congr; omega

theorem yearBack_spec {g T : Int} (hT1 : yearStart T ≤ g) (hT2 : g < yearStart (T + 1))
    (hc : Gen.yearBackCmp = .lt) (n : Nat) (y : Int) (hy : T ≤ y) (hn : y - T < n) :
    yearBack g n y = some T := by
  induction n generalizing y with
  | zero => omega
  | succ n ih =>
    have := @yearStart_mono (T + 1) y
    have := @yearStart_mono y T
    simp only [yearBack, hc, Cmp.eval, yearStart_eq, decide_eq_true_eq]
    split
    · exact ih _ (by omega) (by omega)
    · congr; omega

/-- the year search, both directions, stops at the tabular year within the fuel supplied -/
theorem hijriYear_spec (hb : Gen.yearBackCmp = .lt) (hf : Gen.yearFwdCmp = .ge) (g : Int)
    (h1 : 1 ≤ g) (h2 : g ≤ 3652059) : hijriYear hijriFuel g = some (tabYear g) := by
  have ⟨s1, s2⟩ := tabYear_spec g
  unfold hijriYear hijriFuel
  rw [epoch_eq]
  split
  · apply yearBack_spec s1 s2 hb <;> unfold tabYear <;> omega
  · apply yearFwd_spec s1 s2 hf <;> unfold tabYear <;> omega

theorem isHijriLeap_eq (y : Int) (h : Gen.leapRule = .remEuclid) :
    isHijriLeap y = decide ((11 * y + 14) % 30 < 11) := by
  simp [isHijriLeap, h]

/-- month k ends the day before month k + 1 starts, the twelfth the day before the next year -/
theorem lastDay_eq (k y : Int) (h : Gen.leapRule = .remEuclid) :
    hijriAbsDate (hijriDaysInMonth k y) k y =
      (if k = 12 then yearStart (y + 1) else yearStart y + monthStart (k + 1)) - 1 := by
  rw [hijriAbsDate_eq]
  split
  · subst k
    have := yearLen y
    simp [hijriDaysInMonth, isHijriLeap_eq _ h, show monthStart 12 = 325 from rfl]; omega
  · simp [hijriDaysInMonth, *, monthStart_succ]; omega

theorem monthLoop_spec {g y M : Int}
    (hbelow : ∀ k, k < M → g > hijriAbsDate (hijriDaysInMonth k y) k y)
    (hM : g ≤ hijriAbsDate (hijriDaysInMonth M y) M y) (n : Nat) (m : Int) (h1 : m ≤ M) (hn : M - m < n) :
    monthLoop g y n m = some M := by
  induction n generalizing m with
  | zero => omega
  | succ n ih =>
    unfold monthLoop
    by_cases h : m < M
    · rw [if_pos (hbelow m h)]; exact ih _ (by omega) (by omega)
    · obtain rfl : m = M := by omega
      rw [if_neg (by omega)]

/-- the month search returns the closed-form month -/
theorem monthVal_spec (g y : Int) (h : Gen.leapRule = .remEuclid)
    (h1 : yearStart y ≤ g) (h2 : g < yearStart (y + 1)) :
    monthVal g y = some (tabMonthOf (g - yearStart y)) := by
  obtain ⟨m1, m12, lo, hi⟩ := @tabMonthOf_spec (g - yearStart y) (by omega)
    (by have := yearLen_bounds y; omega)
  refine monthLoop_spec (fun k hk => ?_) ?_ 255 1 m1 (by omega) <;> rw [lastDay_eq _ y h]
  · have := monthStart_mono hk
    rw [if_neg (by omega)]; omega
  · split <;> omega

end IPT.HijriLemmas
