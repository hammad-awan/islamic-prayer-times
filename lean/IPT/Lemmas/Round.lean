import IPT.Real.Consts
import IPT.Model.Times
import Mathlib.Tactic.Linarith
import Mathlib.Tactic.Ring
import Mathlib.Tactic.Positivity
/- hour_to_time over ℝ: the wrap loop and the h:m:s fields as floors, for Thm/C11 -/
namespace IPT.RoundLemmas
open IPT

theorem wrapNeg_of_nonneg (n : ℕ) (x : ℝ) (h : 0 ≤ x) : wrapNeg n x = .ok x := by
  cases n <;> simp only [wrapNeg, sc_ltb, lit_zero, not_lt.mpr h, decide_false, Bool.false_eq_true, if_false]

/-- the wrap loop adds the least multiple of 24 that makes the hour non-negative -/
theorem wrapNeg_spec (n : ℕ) (x : ℝ) (h : -(24 : ℝ) * n ≤ x) :
    ∃ k : ℕ, wrapNeg n x = .ok (x + 24 * k) ∧ 0 ≤ x + 24 * k ∧
      (0 ≤ x → k = 0) ∧ (x < 0 → x + 24 * k < 24) := by
  induction n generalizing x <;> rcases le_or_gt 0 x with hx | hx
  case zero.inr => rw [Nat.cast_zero, mul_zero] at h; exact absurd hx h.not_gt
  case succ.inr n ih =>
    -- one turn of the loop, then the rest on x + 24
    obtain ⟨k, e, h0, h1, h2⟩ := ih (x + 24) (by push_cast at h; linarith)
    have ek : x + 24 * ((k + 1 : ℕ) : ℝ) = x + 24 + 24 * k := by push_cast; ring
    refine ⟨k + 1, ?_, ek ▸ h0, fun h => absurd hx h.not_gt, fun _ => ?_⟩
    · simp only [wrapNeg, sc_ltb, lit_zero, hx, decide_true, if_true, c_HRS_PER_DAY, e, ek]
    · rcases le_or_gt 0 (x + 24) with h24 | h24
      · rw [h1 h24]; push_cast; linarith
      · exact ek ▸ h2 h24
  all_goals
    have z : x + 24 * ((0 : ℕ) : ℝ) = x := by rw [Nat.cast_zero, mul_zero, add_zero]
    exact ⟨0, by rw [z]; exact wrapNeg_of_nonneg _ x hx, by rwa [z], fun _ => rfl, fun h => absurd h hx.not_gt⟩

/-- mixed-radix digit: the floor of `c` times the fractional part -/
theorem floor_fract_mul (c : ℤ) (x : ℝ) : ⌊(x - ⌊x⌋) * c⌋ = ⌊(c : ℝ) * x⌋ - c * ⌊x⌋ := by
  rw [← Int.floor_sub_intCast]; congr 1; push_cast; ring

theorem floor_div60 (y : ℝ) : ⌊y⌋ = ⌊60 * y⌋ / 60 :=
  (Int.cast_mul_floor_div_cancel_of_pos (n := 60) (by norm_num) y).symm

theorem toU32_of_small (y : ℝ) (n : ℤ) (h : ⌊y⌋ = n) (h0 : 0 ≤ n) (h1 : n < 4294967295) :
    Sc.toU32 y = n.toNat := by
  simp only [sc_toU32, h]
  omega

theorem fracMin_real (y : ℝ) : fracMin y = (y - ⌊y⌋) * 60 := by
  simp only [fracMin, sc_floor, c_MIN_SEC]

/-- over ℝ the two correction branches of `rem24` are never taken -/
theorem rem24_real (y : ℝ) : rem24 y = y - 24 * ⌊y / 24⌋ := by
  have h0 := Int.sub_floor_div_mul_nonneg y (b := 24) (by norm_num)
  have h1 := Int.sub_floor_div_mul_lt y (b := 24) (by norm_num)
  rw [mul_comm] at h0 h1
  simp only [rem24, sc_floor, sc_ltb, sc_leb, c_HRS_PER_DAY, lit_zero, decide_eq_true_eq]
  rw [if_neg h0.not_gt, if_neg h1.not_ge]

theorem floor_rem24 (y : ℝ) : ⌊rem24 y⌋ = ⌊y⌋ % 24 := by
  have hq : ⌊y / 24⌋ = ⌊y⌋ / 24 := Int.floor_div_natCast y 24
  rw [rem24_real, Int.emod_def, ← hq]
  exact_mod_cast Int.floor_sub_intCast y (24 * ⌊y / 24⌋)

/-- the hour field: `hour >= 24 → hour.rem(24)`, then `as u32` -/
theorem hour_toU32 (y : ℝ) (h0 : 0 ≤ y) :
    Sc.toU32 (if Sc.leb (Gen.HRS_PER_DAY : ℝ) y then rem24 y else y) = ((⌊60 * y⌋ / 60) % 24).toNat := by
  rw [← floor_div60]
  have hf0 : 0 ≤ ⌊y⌋ := Int.floor_nonneg.mpr h0
  refine toU32_of_small _ _ ?_ (by omega) (by omega)
  simp only [sc_leb, c_HRS_PER_DAY, decide_eq_true_eq]
  split
  · exact floor_rem24 y
  · have : ⌊y⌋ < 24 := Int.floor_lt.mpr (by push_cast; linarith)
    omega

/-- `hour_toU32` below the bound of a `u32`, which the cast does not need: the field is below 24 -/
theorem hour_field (y : ℝ) (h0 : 0 ≤ y) (h1 : y < 4000000000) :
    Sc.toU32 (if Sc.leb (Gen.HRS_PER_DAY : ℝ) y then rem24 y else y) = ((⌊60 * y⌋ / 60) % 24).toNat :=
  hour_toU32 y h0

/-- the minute field -/
theorem minute_field (y : ℝ) : Sc.toU32 (fracMin y) = (⌊60 * y⌋ % 60).toNat := by
  refine toU32_of_small _ _ ?_ (by omega) (by omega)
  have := floor_fract_mul 60 y
  have := floor_div60 y
  push_cast at *
  rw [fracMin_real]; omega

/-- the second of an unrounded time, before `as u32` -/
theorem second_field (y : ℝ) :
    ⌊(fracMin y - Sc.floor (fracMin y)) * Gen.MIN_SEC_PER_HR_MIN⌋ = ⌊3600 * y⌋ - 60 * ⌊60 * y⌋ ∧
    0 ≤ ⌊3600 * y⌋ - 60 * ⌊60 * y⌋ ∧ ⌊3600 * y⌋ - 60 * ⌊60 * y⌋ ≤ 59 := by
  have a := floor_fract_mul 60 (fracMin y)
  have b := floor_fract_mul 60 y
  have c : (60 : ℝ) * fracMin y = 3600 * y - ((3600 * ⌊y⌋ : ℤ) : ℝ) := by rw [fracMin_real]; push_cast; ring
  have d := floor_div60 (60 * y)
  rw [← mul_assoc, show (60 : ℝ) * 60 = 3600 by norm_num] at d
  push_cast at a b
  rw [sc_floor, c_MIN_SEC, a, c, Int.floor_sub_intCast, fracMin_real, b]
  omega

end IPT.RoundLemmas
