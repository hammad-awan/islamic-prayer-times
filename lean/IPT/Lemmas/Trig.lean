import IPT.Real.Consts
import IPT.Model.Hours
import Mathlib.Tactic.Linarith
import Mathlib.Tactic.Ring
import Mathlib.Tactic.Positivity
import Mathlib.Tactic.FieldSimp
/- trigonometry over ℝ behind the hour functions: degrees and radians, the arc `toDegrees (arccos r)` of an
   hour-angle cosine r = (T - sin φ sin δ)/(cos φ cos δ), and the altitude equation it solves -/
namespace IPT.TrigLemmas
open IPT Real

theorem pi_div_180_pos : 0 < Real.pi / 180 := by positivity

theorem toRadians_toDegrees (x : ℝ) : toRadians (toDegrees x) = x := by
  rw [toRadians_real, toDegrees_real]
  have : Real.pi ≠ 0 := Real.pi_ne_zero
  field_simp

theorem toDegrees_toRadians (x : ℝ) : toDegrees (toRadians x) = x := by
  rw [toRadians_real, toDegrees_real]
  have : Real.pi ≠ 0 := Real.pi_ne_zero
  field_simp

theorem toRadians_neg (x : ℝ) : toRadians (-x) = -toRadians x := by
  simp only [toRadians_real]; ring

theorem toRadians_le {x y : ℝ} (h : x ≤ y) : toRadians x ≤ toRadians y := by
  rw [toRadians_real, toRadians_real]
  exact mul_le_mul_of_nonneg_right h pi_div_180_pos.le

theorem toRadians_lt {x y : ℝ} (h : x < y) : toRadians x < toRadians y := by
  rw [toRadians_real, toRadians_real]
  exact mul_lt_mul_of_pos_right h pi_div_180_pos

theorem toRadians_90 : toRadians (90 : ℝ) = π / 2 := by rw [toRadians_real]; ring

theorem toRadians_mem {x : ℝ} (h0 : -90 ≤ x) (h1 : x ≤ 90) : -(π / 2) ≤ toRadians x ∧ toRadians x ≤ π / 2 := by
  rw [← toRadians_90, ← toRadians_neg]
  exact ⟨toRadians_le h0, toRadians_le h1⟩

theorem cos_toRadians_pos {x : ℝ} (h0 : -90 < x) (h1 : x < 90) : 0 < cos (toRadians x) := by
  apply cos_pos_of_mem_Ioo
  rw [← toRadians_90, ← toRadians_neg]
  exact ⟨toRadians_lt h0, toRadians_lt h1⟩

theorem sin_toRadians_le {x y : ℝ} (h0 : -90 ≤ x) (h : x ≤ y) (h1 : y ≤ 90) :
    sin (toRadians x) ≤ sin (toRadians y) :=
  sin_le_sin_of_le_of_le_pi_div_two (toRadians_mem h0 (h.trans h1)).1 (toRadians_mem (h0.trans h) h1).2
    (toRadians_le h)

theorem sin_toRadians_lt {x y : ℝ} (h0 : -90 ≤ x) (h : x < y) (h1 : y ≤ 90) :
    sin (toRadians x) < sin (toRadians y) :=
  sin_lt_sin_of_lt_of_le_pi_div_two (toRadians_mem h0 (h.le.trans h1)).1 (toRadians_mem (h0.trans h.le) h1).2
    (toRadians_lt h)

theorem toDegrees_pos {x : ℝ} (h : 0 < x) : 0 < toDegrees x := by
  rw [toDegrees_real]; positivity

theorem toDegrees_nonneg {x : ℝ} (h : 0 ≤ x) : 0 ≤ toDegrees x := by
  rw [toDegrees_real]; positivity

theorem toDegrees_lt {x y : ℝ} (h : x < y) : toDegrees x < toDegrees y := by
  rw [toDegrees_real, toDegrees_real]
  exact mul_lt_mul_of_pos_right h (by positivity)

theorem toDegrees_le {x y : ℝ} (h : x ≤ y) : toDegrees x ≤ toDegrees y := by
  rw [toDegrees_real, toDegrees_real]
  exact mul_le_mul_of_nonneg_right h (by positivity)

theorem toDegrees_pi : toDegrees Real.pi = 180 := by
  rw [toDegrees_real, mul_div_cancel₀ _ Real.pi_ne_zero]

theorem arcDeg_pos {r : ℝ} (h : r < 1) : 0 < toDegrees (arccos r) := toDegrees_pos (arccos_pos.mpr h)

theorem arcDeg_lt {r : ℝ} (h : -1 < r) : toDegrees (arccos r) < 180 :=
  (toDegrees_lt (arccos_lt_pi.mpr h)).trans_eq toDegrees_pi

theorem arcDeg_anti {r r' : ℝ} (h : r ≤ r') : toDegrees (arccos r') ≤ toDegrees (arccos r) :=
  toDegrees_le (arccos_le_arccos h)

/-- the defining property of every hour-angle solution in the code: with r = (T - s)/k in [-1,1]
    and H = arccos r in degrees, the spherical altitude equation s + k cos H = T holds exactly -/
theorem altitude_eq {s k T : ℝ} (hk : k ≠ 0) (h1 : -1 ≤ (T - s) / k) (h2 : (T - s) / k ≤ 1) :
    s + k * cos (toRadians (toDegrees (arccos ((T - s) / k)))) = T := by
  rw [toRadians_toDegrees, cos_arccos h1 h2, mul_div_cancel₀ _ hk, add_sub_cancel]

/-- conversely any hour angle solving the altitude equation has its cosine equal to r -/
theorem reachable_iff (s k T : ℝ) (hk : k ≠ 0) :
    (-1 ≤ (T - s) / k ∧ (T - s) / k ≤ 1) ↔ ∃ H : ℝ, s + k * cos H = T := by
  constructor
  · rintro ⟨h1, h2⟩; exact ⟨_, altitude_eq hk h1 h2⟩
  · rintro ⟨H, rfl⟩
    rw [add_sub_cancel_left, mul_div_cancel_left₀ _ hk]
    exact ⟨neg_one_le_cos H, cos_le_one H⟩

/-- the hour-angle cosine (T - sin φ sin δ)/(cos φ cos δ) is below 1 when the target T is below the
    day's highest altitude sine cos (φ - δ) -/
theorem haCos_lt_one {φ δ T : ℝ} (hk : 0 < cos φ * cos δ) (h : T < cos (φ - δ)) :
    (T - sin φ * sin δ) / (cos φ * cos δ) < 1 := by
  rw [div_lt_one hk]; rw [cos_sub] at h; linarith

theorem sin_toRadians_neg_nonpos {a : ℝ} (h0 : 0 ≤ a) (h1 : a ≤ 90) : sin (toRadians (-a)) ≤ 0 := by
  have := sin_toRadians_le (neg_le_neg h1) (neg_nonpos.mpr h0) (by norm_num)
  rwa [toRadians_real 0, zero_mul, sin_zero] at this

/-- the sine of the altitude with cotangent x is below cos u when x exceeds tan u: sin (arccot x) = cos (arctan x)
    and u = arctan (tan u) < arctan x -/
theorem sin_arctan_inv_lt_cos {x u : ℝ} (hu0 : 0 ≤ u) (hu : u < π / 2) (hx : tan u < x) :
    sin (arctan (1 / x)) < cos u := by
  have ht := tan_nonneg_of_nonneg_of_le_pi_div_two hu0 hu.le
  rw [one_div, arctan_inv_of_pos (ht.trans_lt hx), sin_pi_div_two_sub]
  apply cos_lt_cos_of_nonneg_of_le_pi_div_two hu0 (arctan_lt_pi_div_two x).le
  calc u = arctan (tan u) := (arctan_tan (by linarith) hu).symm
    _ < arctan x := arctan_strictMono hx

end IPT.TrigLemmas
