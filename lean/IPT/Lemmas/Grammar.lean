import IPT.Model.F64
/-
  The JSON number grammar is contained in Rust's `f64::from_str` grammar, with the same reading:
  every string `parseJson` reads as a number, `parseRust` reads as the same number.
-/
namespace IPT.F64

theorem toLower_digit (c : Char) (h : isDigit c = true) : c.toLower = c := by
  simp only [isDigit, Bool.and_eq_true, decide_eq_true_eq] at h
  exact dif_neg fun ⟨h3, _⟩ => absurd (UInt32.le_trans h3 h.2) (by decide)

/-- a string that begins with a digit differs, lowered or not, from a word `t` that does not
    (`inf`, `infinity`, `nan`) -/
theorem lower_digit_ne (c : Char) (cs : List Char) (h : isDigit c = true) (t : String)
    (ht : t.toList.head?.any isDigit = false) : (lower (c :: cs) == t) = false := by
  rw [beq_eq_false_iff_ne]
  rintro rfl
  rw [lower, String.toList_ofList, List.map_cons, toLower_digit c h, List.head?_cons, Option.any_some, h] at ht
  exact Bool.noConfusion ht

theorem takeDigits_head (cs : List Char) (h : (takeDigits cs).1.isEmpty = false) :
    ∃ c r, cs = c :: r ∧ isDigit c = true := by
  cases cs with
  | nil => simp [takeDigits] at h
  | cons c r =>
    refine ⟨c, r, rfl, ?_⟩
    by_cases hc : isDigit c = true
    · exact hc
    · simp [takeDigits, hc] at h

/-- after the sign, whatever the JSON grammar reads as a number Rust's grammar reads as the same number -/
theorem rustBody_of_jsonBody (neg : Bool) (cs : List Char) (d : Dec) (h : jsonBody neg cs = .num d) :
    rustBody neg cs = .num d := by
  unfold jsonBody at h
  simp only at h
  split at h
  · cases h
  rename_i hip
  split at h
  · cases h
  rw [Bool.not_eq_true] at hip
  obtain ⟨c, r, rfl, hc⟩ := takeDigits_head cs hip
  unfold rustBody
  simp only [lower_digit_ne c r hc "inf" rfl, lower_digit_ne c r hc "infinity" rfl, lower_digit_ne c r hc "nan" rfl,
    Bool.or_false, hip, Bool.false_and, Bool.false_eq_true, if_false]
  -- what is left differs in the fraction step only: JSON wants a digit after a dot
  generalize splitDot (takeDigits (c :: r)).2 = o at h ⊢
  cases o with
  | none => exact h
  | some r2 =>
    by_cases hf : (takeDigits r2).1.isEmpty = true
    · simp only [hf, if_true] at h; cases h
    · simp only [hf] at h; exact h

/-- **the JSON number grammar is contained in Rust's `f64::from_str` grammar, with the same reading** -/
theorem parseRust_of_parseJson (s : String) (d : Dec) (h : parseJson s = .num d) : parseRust s = .num d := by
  unfold parseJson at h
  unfold parseRust
  split at h
  · next r heq => rw [heq]; exact rustBody_of_jsonBody _ _ _ h
  · next hne =>
    split
    · next r' heq => exact absurd heq (hne r')
    · next r' heq =>
      -- a leading `+` is not JSON
      rw [heq] at h
      exact Parsed.noConfusion ((rfl : jsonBody false ('+' :: r') = .bad).symm.trans h)
    · exact rustBody_of_jsonBody _ _ _ h

theorem jsonBody_num_or_bad (neg : Bool) (cs : List Char) :
    jsonBody neg cs = .bad ∨ ∃ d, jsonBody neg cs = .num d := by
  generalize hp : jsonBody neg cs = p
  unfold jsonBody at hp
  simp only at hp
  split at hp
  · exact .inl hp.symm
  · split at hp
    · exact .inl hp.symm
    · split at hp
      · exact .inl hp.symm
      · split at hp
        · exact .inr ⟨_, hp.symm⟩
        · split at hp
          · exact .inr ⟨_, hp.symm⟩
          · exact .inl hp.symm

/-- the JSON grammar has no words: a string is a JSON number or malformed -/
theorem parseJson_num_or_bad (s : String) : parseJson s = .bad ∨ ∃ d, parseJson s = .num d := by
  unfold parseJson
  split <;> exact jsonBody_num_or_bad _ _

end IPT.F64
