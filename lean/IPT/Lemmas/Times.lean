import IPT.Model.Times
/- What a successful run of `optTime`, `flagExtreme`, `imsaakOf` and `prayerTimesDt` looked like, for
   every scalar type: the inversion lemmas through which the property theorems read a reported result. -/
namespace IPT.TimesLemmas
open IPT
variable {α : Type} [Add α] [Sub α] [Mul α] [Div α] [Neg α] [OfScientific α] [Sc α]

theorem optTime_ok_iff (p : Params α) (pr : Prayer) (o : Option (PH α)) (r : Option PT) :
    optTime p pr o = .ok r ↔
      (o = none ∧ r = none) ∨ ∃ ph t, o = some ph ∧ hourToTime p pr ph.value = .ok t ∧ r = some ⟨t, ph.extreme⟩ := by
  constructor
  · intro h
    cases o with
    | none => exact .inl ⟨rfl, (Except.ok.inj h).symm⟩
    | some ph =>
      simp only [optTime, toPrayerTime] at h
      cases e : hourToTime p pr ph.value with
      | error _ => rw [e] at h; exact nomatch h
      | ok t => rw [e] at h; exact .inr ⟨ph, t, rfl, e, (Except.ok.inj h).symm⟩
  · rintro (⟨rfl, rfl⟩ | ⟨ph, t, rfl, e, rfl⟩)
    · rfl
    · simp only [optTime, toPrayerTime, e]

theorem flagExtreme_ok_iff (r : Except Panic (Option PT)) (x : Option PT) :
    flagExtreme r = .ok x ↔ ∃ y, r = .ok y ∧ x = y.map fun t => { t with extreme := true } := by
  rcases r with e | _ | t <;> simp [flagExtreme, eq_comm]

/-- **the two ways `get_imsaak` succeeds**: directly, as the Fajr of the adjusted parameters, when
    neither that Fajr nor the reported one is extreme; or through the fallback, when one of them is -/
theorem imsaakOf_ok (p : Params α) (run : Params α → Except Panic (PHours α)) (x : Option PT)
    (h : imsaakOf p run = .ok x) :
    ∃ h1, run (imsaakParams1 p) = .ok h1 ∧
      ((fajrExtreme h1 = false ∧ (∃ h0, run p = .ok h0 ∧ fajrExtreme h0 = false) ∧
          optTime (imsaakParams1 p) .Fajr h1.fajr = .ok x) ∨
       ((fajrExtreme h1 = true ∨ ∃ h0, run p = .ok h0 ∧ fajrExtreme h0 = true) ∧
          ∃ h2, run (imsaakParams2 p) = .ok h2 ∧ flagExtreme (optTime (imsaakParams2 p) .Fajr h2.fajr) = .ok x)) := by
  revert h
  unfold imsaakOf
  cases run (imsaakParams1 p) with
  | error e => exact nofun
  | ok h1 =>
    cases e1 : fajrExtreme h1 <;> cases run p <;> cases run (imsaakParams2 p) <;> simp [e1]
    all_goals cases e0 : fajrExtreme _ <;> simp [e0]

theorem prayerTimesDt_ok (p : Params α) (loc : Location α) (rd : Int) (w : Option (Weather α)) (d : DayTimes)
    (h : prayerTimesDt p loc rd w = .ok d) :
    ∃ hh, getHoursAdjExt p (topFromJd (JD.new rd loc.gmt) loc.coords) (w.getD defaultWeather) = .ok hh ∧
      optTime p .Fajr hh.fajr = .ok d.fajr ∧ optTime p .Shurooq hh.shur = .ok d.shur ∧
      optTime p .Dhuhr hh.dhuhr = .ok d.dhuhr ∧ optTime p .Asr hh.asr = .ok d.asr ∧
      optTime p .Maghrib hh.magh = .ok d.magh ∧ optTime p .Isha hh.isha = .ok d.isha ∧
      getImsaak p (topFromJd (JD.new rd loc.gmt) loc.coords) (w.getD defaultWeather) = .ok d.imsaak := by
  unfold prayerTimesDt at h
  simp only at h
  split at h
  · cases h
  · rename_i hh hhh
    refine ⟨hh, hhh, ?_⟩
    unfold assemble at h
    split at h
    · rename_i e1 e2 e3 e4 e5 e6 e7
      cases h
      exact ⟨e1, e2, e3, e4, e5, e6, e7⟩
    all_goals cases h

end IPT.TimesLemmas
