import IPT.Model.Times
/- The policy layer (`applyPolicy`, its six writers, the interval pass `adjForInt`) for every scalar
   type.  Each writer is `putFI` of some values under some conditions (`*_eq`), and `putFI_write` says
   what that means for the six entries; `applyPolicy_cases` carries a fact about the writers to the
   dispatch; `adjForInt_eq` is the interval pass in closed form. -/
namespace IPT.ExtLatLemmas
open IPT
variable {α : Type} [Add α] [Sub α] [Mul α] [Div α] [Neg α] [OfScientific α] [Sc α]

theorem applyPolicy_cases {Q : PHours α → Prop} {p : Params α} {h r : PHours α} {env : Env α}
    (hr : applyPolicy p h env = .ok r) (keep : Q h)
    (angle : Gen.dispatch p.policy = .angleBased → Q (angleBased p h))
    (nearLat : ∀ l r', Gen.dispatch p.policy = .nearLat l → adjNearLat p h (env.nearLatHours l) = .ok r' → Q r')
    (nearGood : Gen.dispatch p.policy = .nearGood → Q (adjNearGood p h env))
    (sevHalf : Gen.dispatch p.policy = .sevHalf → Q (adjSevHalf p h))
    (minAlways : Gen.dispatch p.policy = .minAlways → Q (adjMinAlways h))
    (minInv : Gen.dispatch p.policy = .minInv → Q (adjMinInv p h)) : Q r := by
  unfold applyPolicy at hr
  split at hr
  · split at hr
    · rename_i hd; exact Except.ok.inj hr ▸ angle hd
    · rename_i l hd; exact nearLat l r hd hr
    · rename_i hd; exact Except.ok.inj hr ▸ nearGood hd
    · rename_i hd; exact Except.ok.inj hr ▸ sevHalf hd
    · rename_i hd; exact Except.ok.inj hr ▸ minAlways hd
    · rename_i hd; exact Except.ok.inj hr ▸ minInv hd
    · exact Except.ok.inj hr ▸ keep
  · exact Except.ok.inj hr ▸ keep

/-- the four entries a Fajr/Isha writer must not touch -/
def SameOthers (a b : PHours α) : Prop :=
  a.shur = b.shur ∧ a.dhuhr = b.dhuhr ∧ a.asr = b.asr ∧ a.magh = b.magh

theorem SameOthers.rfl' (a : PHours α) : SameOthers a a := ⟨rfl, rfl, rfl, rfl⟩

/-- the flag the interval pass gives its result: that of the value it overwrites, false if none -/
def flagOf (x : Option (PH α)) : Bool := match x with
  | some f => f.extreme
  | none => false


/-- every unflagged entry of `a` is the same entry of `b` -/
def Unfl (a b : Option (PH α)) : Prop := ∀ v, a = some ⟨v, false⟩ → b = some ⟨v, false⟩

def UnflAll (a b : PHours α) : Prop :=
  Unfl a.fajr b.fajr ∧ Unfl a.shur b.shur ∧ Unfl a.dhuhr b.dhuhr ∧ Unfl a.asr b.asr ∧
  Unfl a.magh b.magh ∧ Unfl a.isha b.isha

theorem Unfl.refl (a : Option (PH α)) : Unfl a a := fun _ h => h

theorem UnflAll.refl (a : PHours α) : UnflAll a a :=
  ⟨.refl _, .refl _, .refl _, .refl _, .refl _, .refl _⟩

theorem unfl_map_ext (x : Option α) (b : Option (PH α)) : Unfl (x.map PH.ext) b := by
  intro w h; cases x <;> simp [PH.ext] at h

theorem unfl_map_flag (x : Option (PH α)) (f : PH α → α) (b : Option (PH α)) :
    Unfl (x.map fun y => ⟨f y, true⟩) b := by
  intro w h; cases x <;> simp at h

/-- an existing Fajr and an existing Isha of `h` are still there in `r` -/
def Keeps (r h : PHours α) : Prop := (h.fajr.isSome → r.fajr = h.fajr) ∧ (h.isha.isSome → r.isha = h.isha)

/-- `r` is `h` with Fajr and Isha rewritten at most, by flagged values only; with `inv`, only where
    they were missing -/
def FIWrite (inv : Bool) (r h : PHours α) : Prop := SameOthers r h ∧ UnflAll r h ∧ (inv = true → Keeps r h)

theorem FIWrite.refl (inv : Bool) (h : PHours α) : FIWrite inv h h :=
  ⟨.rfl' _, .refl _, fun _ => ⟨fun _ => rfl, fun _ => rfl⟩⟩

/-- the shape the Fajr/Isha writers share: Fajr becomes `vf` if `cf`, Isha becomes `vi` if `ci` -/
def putFI (cf : Bool) (vf : Option (PH α)) (ci : Bool) (vi : Option (PH α)) (h : PHours α) : PHours α :=
  { h with fajr := if cf then vf else h.fajr, isha := if ci then vi else h.isha }

theorem unfl_ite (c : Bool) (v a : Option (PH α)) (hv : Unfl v a) : Unfl (if c then v else a) a := by
  cases c
  · exact .refl _
  · exact hv

theorem putFI_write (inv cf ci : Bool) (vf vi : Option (PH α)) (h : PHours α) (hf : Unfl vf h.fajr) (hi : Unfl vi h.isha)
    (hcf : inv = true → cf = true → h.fajr = none) (hci : inv = true → ci = true → h.isha = none) :
    FIWrite inv (putFI cf vf ci vi h) h := by
  refine ⟨⟨rfl, rfl, rfl, rfl⟩,
    ⟨unfl_ite _ _ _ hf, .refl _, .refl _, .refl _, .refl _, unfl_ite _ _ _ hi⟩, fun hinv => ?_⟩
  constructor <;> intro hs <;> simp only [putFI] <;> split <;> simp_all

theorem adjMinInv_eq (p : Params α) (h : PHours α) :
    adjMinInv p h = putFI h.fajr.isNone (h.shur.map fun x => ⟨x.value - p.intFajr / Gen.MIN_SEC_PER_HR_MIN, true⟩)
      h.isha.isNone (h.magh.map fun x => ⟨x.value + p.intIsha / Gen.MIN_SEC_PER_HR_MIN, true⟩) h := by
  obtain ⟨f, s, d, a, m, i⟩ := h
  cases f <;> cases i <;> rfl

/-- seventh/half of the night or day: write Fajr, then Isha, each always or where it is missing; the
    half-of-night formula is chosen by the policy's own two tests -/
theorem adjSevHalf_eq (p : Params α) (h : PHours α) :
    adjSevHalf p h = match h.shur, h.magh with
      | some s, some m =>
        let portion := portionOf p.policy.portionKind s.value m.value
        let half := if p.policy.isSevHalfAlways then p.policy.isHalfAlways else p.policy.isHalfInvalid
        putFI (p.policy.isSevHalfAlways || h.fajr.isNone)
          (some (PH.ext (if half then portion - p.intFajr / Gen.MIN_SEC_PER_HR_MIN else s.value - portion)))
          (p.policy.isSevHalfAlways || h.isha.isNone)
          (some (PH.ext (if half then portion + p.intIsha / Gen.MIN_SEC_PER_HR_MIN else m.value + portion))) h
      | _, _ => h := by
  obtain ⟨f, s, d, a, m, i⟩ := h
  unfold adjSevHalf
  cases s <;> cases m <;> try rfl
  cases f <;> cases i <;> cases p.policy.isSevHalfAlways <;> cases p.policy.isHalfAlways <;>
    cases p.policy.isHalfInvalid <;> rfl

theorem adjNearGood_eq (p : Params α) (h : PHours α) (env : Env α) (hp : p.policy.isGoodDayAll = false) :
    adjNearGood p h env = match searchGood env.hoursAt env.bound with
      | none => h
      | some a => putFI h.fajr.isNone (a.fajr.map PH.ext) h.isha.isNone (a.isha.map PH.ext) h := by
  obtain ⟨f, s, d, a, m, i⟩ := h
  unfold adjNearGood
  rw [hp]
  cases searchGood env.hoursAt env.bound
  · rfl
  · cases f <;> cases i <;> rfl

/-- nearest latitude: Fajr and Isha are taken from the substitute latitude where it has them
    (always, or where they are missing); the "all prayers" variant then also takes Shurooq, Asr and
    Maghrib, and flags its own Dhuhr - the one `unwrap` of the policy layer -/
theorem adjNearLat_eq (p : Params α) (h : PHours α) (adj : Hours α) :
    adjNearLat p h adj =
      let h2 := putFI (adj.fajr.isSome && (!p.policy.isNearLatFIInvalid || h.fajr.isNone)) (adj.fajr.map PH.ext)
        (adj.isha.isSome && (!p.policy.isNearLatFIInvalid || h.isha.isNone)) (adj.isha.map PH.ext) h
      if p.policy.isNearLatAll then
        match h.dhuhr with
        | none => .error (.unwrapErr "adj_near_lat:dhuhr")
        | some d => .ok { h2 with shur := adj.shur.map PH.ext, dhuhr := some ⟨d.value, true⟩,
                                  asr := adj.asr.map PH.ext, magh := adj.magh.map PH.ext }
      else .ok h2 := by
  obtain ⟨f, s, d, a, m, i⟩ := h
  unfold adjNearLat
  cases adj.fajr <;> cases adj.isha <;> cases p.policy.isNearLatFIInvalid <;> cases f <;> cases i <;> rfl

theorem angleBased_write (p : Params α) (h : PHours α) : FIWrite false (angleBased p h) h := by
  unfold angleBased
  split
  · exact putFI_write false true true _ _ h (unfl_map_ext (some _) _) (unfl_map_ext (some _) _) nofun nofun
  · exact .refl _ _

theorem adjMinAlways_write (h : PHours α) : FIWrite false (adjMinAlways h) h :=
  putFI_write false true true _ _ h (unfl_map_flag _ _ _) (unfl_map_flag _ _ _) nofun nofun

theorem adjMinInv_write (p : Params α) (h : PHours α) : FIWrite true (adjMinInv p h) h := by
  rw [adjMinInv_eq]
  exact putFI_write _ _ _ _ _ _ (unfl_map_flag _ _ _) (unfl_map_flag _ _ _) (fun _ => Option.isNone_iff_eq_none.mp)
    (fun _ => Option.isNone_iff_eq_none.mp)

theorem adjSevHalf_write (p : Params α) (h : PHours α) : FIWrite (!p.policy.isSevHalfAlways) (adjSevHalf p h) h := by
  rw [adjSevHalf_eq]
  split
  · refine putFI_write _ _ _ _ _ _ (unfl_map_ext (some _) _) (unfl_map_ext (some _) _) ?_ ?_ <;>
      intro hA hc <;> simp_all
  · exact .refl _ _

theorem adjNearGood_write (p : Params α) (h : PHours α) (env : Env α) (hp : p.policy.isGoodDayAll = false) :
    FIWrite true (adjNearGood p h env) h := by
  rw [adjNearGood_eq p h env hp]
  split
  · exact .refl _ _
  · exact putFI_write _ _ _ _ _ _ (unfl_map_ext _ _) (unfl_map_ext _ _) (fun _ => Option.isNone_iff_eq_none.mp)
      (fun _ => Option.isNone_iff_eq_none.mp)

theorem adjNearLat_write (p : Params α) (h r : PHours α) (adj : Hours α) (hp : p.policy.isNearLatAll = false)
    (hr : adjNearLat p h adj = .ok r) : FIWrite p.policy.isNearLatFIInvalid r h := by
  simp only [adjNearLat_eq, hp, Bool.false_eq_true, if_false] at hr
  rw [← Except.ok.inj hr]
  refine putFI_write _ _ _ _ _ _ (unfl_map_ext _ _) (unfl_map_ext _ _) ?_ ?_ <;> intro hA hc <;> simp_all

theorem adjNearGood_unfl (p : Params α) (h : PHours α) (env : Env α) : UnflAll (adjNearGood p h env) h := by
  cases hp : p.policy.isGoodDayAll
  · exact (adjNearGood_write p h env hp).2.1
  · unfold adjNearGood
    split
    · exact .refl _
    · rw [hp]
      exact ⟨unfl_map_ext _ _, unfl_map_ext _ _, unfl_map_ext _ _, unfl_map_ext _ _, unfl_map_ext _ _, unfl_map_ext _ _⟩

theorem adjNearLat_unfl (p : Params α) (h r : PHours α) (adj : Hours α) (hr : adjNearLat p h adj = .ok r) :
    UnflAll r h := by
  cases hp : p.policy.isNearLatAll
  · exact (adjNearLat_write p h r adj hp hr).2.1
  · simp only [adjNearLat_eq, hp, if_true] at hr
    split at hr
    · cases hr
    · rw [← Except.ok.inj hr]
      exact ⟨unfl_ite _ _ _ (unfl_map_ext _ _), unfl_map_ext _ _, unfl_map_flag (some _) _ _, unfl_map_ext _ _,
        unfl_map_ext _ _, unfl_ite _ _ _ (unfl_map_ext _ _)⟩

theorem applyPolicy_others (p : Params α) (h r : PHours α) (env : Env α) (hA : p.policy.isNearLatAll = false)
    (hB : p.policy.isGoodDayAll = false) (hr : applyPolicy p h env = .ok r) : SameOthers r h :=
  applyPolicy_cases (Q := (SameOthers · h)) hr (.rfl' _) (fun _ => (angleBased_write p h).1)
    (fun _ r' _ hr' => (adjNearLat_write p h r' _ hA hr').1) (fun _ => (adjNearGood_write p h env hB).1)
    (fun _ => (adjSevHalf_write p h).1) (fun _ => (adjMinAlways_write h).1) (fun _ => (adjMinInv_write p h).1)

theorem applyPolicy_unfl (p : Params α) (h r : PHours α) (env : Env α) (hr : applyPolicy p h env = .ok r) :
    UnflAll r h :=
  applyPolicy_cases (Q := (UnflAll · h)) hr (.refl _) (fun _ => (angleBased_write p h).2.1)
    (fun _ r' _ => adjNearLat_unfl p h r' _) (fun _ => adjNearGood_unfl p h env) (fun _ => (adjSevHalf_write p h).2.1)
    (fun _ => (adjMinAlways_write h).2.1) (fun _ => (adjMinInv_write p h).2.1)

/-- the six "only if invalid" policies (the variants named `…Invalid`) -/
def isInvalidOnly : Policy α → Bool
  | .NearestLatitudeFajrIshaInvalid _ | .NearestGoodDayFajrIshaInvalid | .SeventhOfNightFajrIshaInvalid
  | .SeventhOfDayFajrIshaInvalid | .HalfOfNightFajrIshaInvalid | .MinutesFromMaghribFajrIshaInvalid => true
  | _ => false

/-- where the dispatch sends an only-if-invalid policy, and what the writers' own tests say of it -/
theorem invalidOnly_flags (pol : Policy α) (h : isInvalidOnly pol = true) :
    pol.isNearLatAll = false ∧ pol.isGoodDayAll = false ∧ pol.isSevHalfAlways = false ∧ Gen.isAlways pol = false ∧
    (∀ l, Gen.dispatch pol = .nearLat l → pol.isNearLatFIInvalid = true) ∧
    Gen.dispatch pol ≠ .angleBased ∧ Gen.dispatch pol ≠ .minAlways := by
  cases pol <;> simp [isInvalidOnly] at h <;>
    simp [Policy.isNearLatAll, Policy.isGoodDayAll, Policy.isSevHalfAlways, Gen.isAlways, Policy.isNearLatFIInvalid,
      Gen.dispatch]

theorem applyPolicy_invalidOnly (p : Params α) (h r : PHours α) (env : Env α)
    (hinv : isInvalidOnly p.policy = true) (hr : applyPolicy p h env = .ok r) :
    (h.fajr.isSome → r.fajr = h.fajr) ∧ (h.isha.isSome → r.isha = h.isha) := by
  obtain ⟨hA, hB, hS, _, hL, hn1, hn2⟩ := invalidOnly_flags p.policy hinv
  exact applyPolicy_cases (Q := (Keeps · h)) hr ⟨fun _ => rfl, fun _ => rfl⟩ (fun hd => absurd hd hn1)
    (fun l r' hd hr' => (adjNearLat_write p h r' _ hA hr').2.2 (hL l hd)) (fun _ => (adjNearGood_write p h env hB).2.2 rfl)
    (fun _ => (adjSevHalf_write p h).2.2 (by rw [hS]; rfl)) (fun hd => absurd hd hn2) (fun _ => (adjMinInv_write p h).2.2 rfl)

theorem goodHours_some (x a : Hours α) (h : goodHours x = some a) :
    a = x ∧ x.fajr.isSome = true ∧ x.isha.isSome = true := by
  unfold goodHours at h
  split at h
  · rename_i hc
    simp only [Bool.and_eq_true] at hc
    exact ⟨(Option.some.inj h).symm, hc.1, hc.2⟩
  · simp at h

theorem searchGood_some (hoursAt : Int → Hours α) (bound : Nat) (a : Hours α)
    (h : searchGood hoursAt bound = some a) :
    a.fajr.isSome = true ∧ a.isha.isSome = true ∧
      ∃ i : Nat, i ≤ bound ∧ (a = hoursAt (-(i : Int)) ∨ a = hoursAt (i : Int)) := by
  unfold searchGood at h
  obtain ⟨i, hi, hf⟩ := List.exists_of_findSome?_eq_some h
  simp only [List.mem_range] at hi
  split at hf
  · rename_i x hx
    obtain rfl := Option.some.inj hf
    obtain ⟨e, f1, f2⟩ := goodHours_some _ _ hx
    exact ⟨e ▸ f1, e ▸ f2, i, by omega, .inl e⟩
  · obtain ⟨e, f1, f2⟩ := goodHours_some _ _ hf
    exact ⟨e ▸ f1, e ▸ f2, i, by omega, .inr e⟩

/-- shape of the policy output relevant to the interval pass: either the four other entries are
    untouched, or Fajr and Isha were replaced and carry the extreme flag - under nearest latitude
    "all prayers" each of them only if the substitute latitude has that twilight -/
theorem applyPolicy_shape (p : Params α) (h r : PHours α) (env : Env α) (hr : applyPolicy p h env = .ok r) :
    SameOthers r h ∨
      (((∀ l, p.policy = .NearestLatitudeAllPrayersAlways l → (env.nearLatHours l).fajr.isSome = true) →
          flagOf r.fajr = true) ∧
       ((∀ l, p.policy = .NearestLatitudeAllPrayersAlways l → (env.nearLatHours l).isha.isSome = true) →
          flagOf r.isha = true)) := by
  cases hpol : p.policy
  case NearestLatitudeAllPrayersAlways l =>
    unfold applyPolicy at hr
    simp only [hpol, Gen.dispatch] at hr
    split at hr
    · right
      unfold adjNearLat at hr
      simp only [hpol, Policy.isNearLatFIInvalid, Policy.isNearLatAll] at hr
      constructor <;> intro hs <;> obtain ⟨x, hx⟩ := Option.isSome_iff_exists.mp (hs l rfl) <;>
        cases hd : h.dhuhr <;> cases hf : (env.nearLatHours l).fajr <;> cases hi : (env.nearLatHours l).isha <;>
        simp_all [flagOf, PH.ext] <;> subst hr <;> rfl
    · exact .inl (Except.ok.inj hr ▸ .rfl' _)
  case NearestGoodDayAllPrayersAlways =>
    refine applyPolicy_cases (Q := fun r => SameOthers r h ∨ ((_ → flagOf r.fajr = true) ∧ (_ → flagOf r.isha = true)))
      hr (.inl (.rfl' _)) ?_ ?_ ?_ ?_ ?_ ?_ <;>
      simp only [hpol, Gen.dispatch, reduceCtorEq, false_imp_iff, implies_true]
    intro _
    unfold adjNearGood
    split
    · exact .inl (.rfl' _)
    · rename_i a ha
      obtain ⟨f1, f2, _⟩ := searchGood_some _ _ _ ha
      obtain ⟨x, hx⟩ := Option.isSome_iff_exists.mp f1
      obtain ⟨y, hy⟩ := Option.isSome_iff_exists.mp f2
      simp [hpol, Policy.isGoodDayAll, hx, hy, flagOf, PH.ext]
  all_goals
    exact .inl (applyPolicy_others p h r env (by rw [hpol]; rfl) (by rw [hpol]; rfl) hr)

theorem fajrExtreme_eq (h : PHours α) : fajrExtreme h = flagOf h.fajr := rfl

theorem flagOf_conv (x : Option α) : flagOf (x.map PH.conv) = false := by cases x <;> rfl

/-- the source reads the flag with `map_or(false, ..)` (`Gen.intFlagRead`): never a panic -/
theorem readFlag_eq (x : Option (PH α)) : readFlag x = some (flagOf x) := by cases x <;> rfl

/-- what the interval pass leaves in a twilight slot: the twilight itself if the pass skips it, else
    the anchor (Shurooq for Fajr, Maghrib for Isha) moved by `f`, with the flag of the twilight it overwrites -/
def intOut (skip : Bool) (f : α → α) (tw anchor : Option (PH α)) : Option (PH α) :=
  if skip then tw else anchor.map fun x => ⟨f x.value, flagOf tw⟩

/-- the interval pass as a function: each twilight through `intOut`, independently of the other -/
def intPass (p : Params α) (h : PHours α) : PHours α :=
  { h with
    fajr := intOut (Gen.intExcluded p.policy || !nonZero p.intFajr) (· - p.intFajr / Gen.MIN_SEC_PER_HR_MIN) h.fajr h.shur,
    isha := intOut (Gen.intExcluded p.policy || !nonZero p.intIsha) (· + p.intIsha / Gen.MIN_SEC_PER_HR_MIN) h.isha h.magh }

theorem adjForInt_eq (p : Params α) (h : PHours α) : adjForInt p h = .ok (intPass p h) := by
  unfold adjForInt intFajrStep intIshaStep intPass
  cases Gen.intExcluded p.policy <;> cases nonZero p.intFajr <;> cases nonZero p.intIsha <;> simp [readFlag_eq, intOut]

theorem adjForExtLat_ok_iff (p : Params α) (hours : Hours α) (env : Env α) (r : PHours α) :
    adjForExtLat p hours env = .ok r ↔ ∃ h1, applyPolicy p hours.toPH env = .ok h1 ∧ adjForInt p h1 = .ok r := by
  unfold adjForExtLat
  cases applyPolicy p hours.toPH env <;> simp

theorem adjForExtLat_of_policy {p : Params α} {hours : Hours α} {env : Env α} {h1 : PHours α}
    (hap : applyPolicy p hours.toPH env = .ok h1) : adjForExtLat p hours env = adjForInt p h1 := by
  unfold adjForExtLat; rw [hap]

theorem adjForExtLat_none (p : Params α) (hours : Hours α) (env : Env α) (hp : p.policy = .None) :
    adjForExtLat p hours env = adjForInt p hours.toPH := by
  simp [adjForExtLat, applyPolicy, canAdj, hp, Policy.isNone]

theorem flagOf_intOut (skip : Bool) (f : α → α) (tw anchor : Option (PH α)) (h : flagOf tw = false) :
    flagOf (intOut skip f tw anchor) = false := by
  cases skip
  · cases anchor
    · rfl
    · exact h
  · exact h

theorem intOut_unfl (skip : Bool) (f : α → α) (tw tw' a a' : Option (PH α)) (htw : Unfl tw tw')
    (hfl : flagOf tw' = false) (ha : skip = false → flagOf tw = false → a = a') :
    Unfl (intOut skip f tw a) (intOut skip f tw' a') := by
  cases skip
  · intro v hv
    cases a with
    | none => simp [intOut] at hv
    | some x =>
      simp only [intOut, Bool.false_eq_true, if_false, Option.map_some, Option.some.injEq, PH.mk.injEq] at hv
      simp [intOut, ← ha rfl hv.2, hfl, hv.1]
  · exact htw

theorem adjForInt_conv_unflagged (p : Params α) (hours : Hours α) (c : PHours α) (hc : adjForInt p hours.toPH = .ok c) :
    flagOf c.fajr = false ∧ flagOf c.shur = false ∧ flagOf c.dhuhr = false ∧
    flagOf c.asr = false ∧ flagOf c.magh = false ∧ flagOf c.isha = false := by
  rw [adjForInt_eq] at hc
  rw [← Except.ok.inj hc]
  dsimp only [intPass]
  refine ⟨?_, flagOf_conv _, flagOf_conv _, flagOf_conv _, flagOf_conv _, ?_⟩
  · exact flagOf_intOut _ _ _ _ (flagOf_conv hours.fajr)
  · exact flagOf_intOut _ _ _ _ (flagOf_conv hours.isha)

theorem none_not_excluded (p : Params α) : ¬ Gen.intExcluded ({ p with policy := Policy.None } : Params α).policy = true := by
  simp [Gen.intExcluded]

end IPT.ExtLatLemmas
