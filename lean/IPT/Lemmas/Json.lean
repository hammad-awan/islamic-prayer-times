import IPT.Model.CliDecode
import IPT.Lemmas.Civil
/- Each parsing step of Model/CliDecode undoes the corresponding piece of Model/Cli's rendering, with an
   arbitrary rest `r` after it.  From the list of entries upwards the plain and the canonical decoder are one
   function (`sepBy`, `braced`) of the entry decoder and are treated once.

   A string literal is `String.ofList` of its characters by definition, so `String.toList_ofList` turns
   `"…".toList` into the list of characters at no cost; evaluating `String.toList` on a literal (`decide`,
   `simp`'s `String.reduceToList`) makes the kernel decode UTF-8 and is slow. -/
namespace IPT.JsonLemmas
open IPT

theorem strip_append (p r : List Char) : stripPrefix? p (p ++ r) = some r := by
  induction p with
  | nil => rfl
  | cons c p ih => simp [stripPrefix?, ih]

theorem strip_char (c : Char) (r : List Char) : stripPrefix? [c] (c :: r) = some r := strip_append [c] r

theorem takeNum_append (k : Nat) (ds r : List Char) (hl : ds.length = k) (hd : ds.all Char.isDigit = true) :
    takeNum k (ds ++ r) = some (Nat.ofDigitChars 10 ds 0, r) := by
  subst hl
  simp [takeNum, hd]

theorem digits_all (n : Nat) : (Nat.toDigits 10 n).all Char.isDigit = true :=
  List.all_eq_true.mpr fun _ hc => Nat.isDigit_of_mem_toDigits (by decide) (by decide) hc

/-- `n < 10 ^ k` in decimal, padded with zeros to `k` digits, reads back as `n` -/
theorem takeNum_padded (k n : Nat) (hk : 0 < k) (h : n < 10 ^ k) (r : List Char) :
    takeNum k (List.replicate (k - (Nat.toDigits 10 n).length) '0' ++ Nat.toDigits 10 n ++ r) = some (n, r) := by
  have hl := (Nat.length_toDigits_le_iff (by decide) hk).mpr h
  rw [takeNum_append k _ r (by simp; omega) (by simp [digits_all])]
  simp [Nat.ofDigitChars_append]

theorem pad2_toList (n : Nat) :
    (pad2 n).toList = List.replicate (2 - (Nat.toDigits 10 n).length) '0' ++ Nat.toDigits 10 n := by
  unfold pad2
  split
  · rename_i h10; simp [Nat.toDigits_of_lt_base h10]
  · have : ¬ (Nat.toDigits 10 n).length ≤ 1 := by
      rw [Nat.length_toDigits_le_iff (by decide) (by decide)]; omega
    simp [show 2 - (Nat.toDigits 10 n).length = 0 by omega]

theorem pad4_toList (n : Nat) :
    (pad4 n).toList = List.replicate (4 - (Nat.toDigits 10 n).length) '0' ++ Nat.toDigits 10 n := by
  simp [pad4, ← String.length_toList]

theorem takeNum_pad2 (n : Nat) (h : n < 100) (r : List Char) :
    takeNum 2 ((pad2 n).toList ++ r) = some (n, r) := by
  rw [pad2_toList]; exact takeNum_padded 2 n (by decide) h r

theorem takeNum_pad4 (n : Nat) (h : n < 10000) (r : List Char) :
    takeNum 4 ((pad4 n).toList ++ r) = some (n, r) := by
  rw [pad4_toList]; exact takeNum_padded 4 n (by decide) h r

theorem decodeBool_render (b : Bool) (r : List Char) :
    decodeBool ((if b then "true" else "false" : String).toList ++ r) = some (b, r) := by
  unfold decodeBool
  cases b
  · have : stripPrefix? "true".toList ("false".toList ++ r) = none := by
      rw [String.toList_ofList, String.toList_ofList]; rfl
    rw [if_neg Bool.false_ne_true, this, strip_append]
  · rw [if_pos rfl, strip_append]

/-- a clock time the renderer can write in two digits per field -/
def PTwf : Option PT → Prop
  | none => True
  | some t => t.time.h < 100 ∧ t.time.m < 100 ∧ t.time.s < 100

theorem renderPT_unfold (t : PT) : renderPT (some t) = "{\"Ok\":{\"time\":\"" ++ pad2 t.time.h ++ ":" ++ pad2 t.time.m ++ ":" ++
    pad2 t.time.s ++ "\",\"extreme\":" ++ (if t.extreme then "true" else "false") ++ "}}" := rfl

theorem renderPTCanon_unfold (t : PT) : renderPTCanon (some t) =
    "{\"Ok\":{\"extreme\":" ++ (if t.extreme then "true" else "false") ++ ",\"time\":\"" ++
      pad2 t.time.h ++ ":" ++ pad2 t.time.m ++ ":" ++ pad2 t.time.s ++ "\"}}" := rfl

/-- the `Err` literal fails on a text that goes on `{"O` -/
theorem strip_err (s : String) (q r : List Char) (h : s.toList = '{' :: '"' :: 'O' :: q) :
    stripPrefix? "{\"Err\":null}".toList (s.toList ++ r) = none := by
  rw [h, String.toList_ofList]; rfl

theorem colon : (":" : String).toList = [':'] := String.toList_ofList
theorem dash : ("-" : String).toList = ['-'] := String.toList_ofList
theorem quote : ("\"" : String).toList = ['"'] := String.toList_ofList
theorem quoteColon : ("\":" : String).toList = ['"', ':'] := String.toList_ofList
theorem lbrace : ("{" : String).toList = ['{'] := String.toList_ofList
theorem rbrace : ("}" : String).toList = ['}'] := String.toList_ofList
theorem comma : ("," : String).toList = [','] := String.toList_ofList

theorem decodePT_render (x : Option PT) (h : PTwf x) (r : List Char) :
    decodePT ((renderPT x).toList ++ r) = some (x, r) := by
  unfold decodePT
  cases x with
  | none => rw [show renderPT none = "{\"Err\":null}" from rfl, strip_append]
  | some t =>
    obtain ⟨hh, hm, hs⟩ := h
    simp only [renderPT_unfold, String.toList_append, List.append_assoc]
    rw [strip_err _ _ _ String.toList_ofList]
    simp only [strip_append, colon, takeNum_pad2, hh, hm, hs, decodeBool_render]

theorem decodePTCanon_render (x : Option PT) (h : PTwf x) (r : List Char) :
    decodePTCanon ((renderPTCanon x).toList ++ r) = some (x, r) := by
  unfold decodePTCanon
  cases x with
  | none => rw [show renderPTCanon none = "{\"Err\":null}" from rfl, strip_append]
  | some t =>
    obtain ⟨hh, hm, hs⟩ := h
    simp only [renderPTCanon_unfold, String.toList_append, List.append_assoc]
    rw [strip_err _ _ _ String.toList_ofList]
    simp only [strip_append, colon, takeNum_pad2, hh, hm, hs, decodeBool_render]

theorem decodeMember_render (key : String) (x : Option PT) (h : PTwf x) (r : List Char) :
    decodeMember key (key.toList ++ ((renderPT x).toList ++ r)) = some (x, r) := by
  simp only [decodeMember, strip_append, decodePT_render x h r]

theorem decodeMemberCanon_render (key : String) (x : Option PT) (h : PTwf x) (r : List Char) :
    decodeMemberCanon key (key.toList ++ ((renderPTCanon x).toList ++ r)) = some (x, r) := by
  simp only [decodeMemberCanon, strip_append, decodePTCanon_render x h r]

def DayWf (d : DayTimes) : Prop :=
  PTwf d.imsaak ∧ PTwf d.fajr ∧ PTwf d.shur ∧ PTwf d.dhuhr ∧ PTwf d.asr ∧ PTwf d.magh ∧ PTwf d.isha

theorem decodeDay_render (d : DayTimes) (h : DayWf d) (r : List Char) :
    decodeDay ((renderDay d).toList ++ r) = some (d, r) := by
  unfold DayWf at h
  unfold renderDay decodeDay
  simp only [String.toList_append, List.append_assoc, rbrace, strip_append, decodeMember_render, h]

theorem decodeDayCanon_render (d : DayTimes) (h : DayWf d) (r : List Char) :
    decodeDayCanon ((renderDayCanon d).toList ++ r) = some (d, r) := by
  unfold DayWf at h
  unfold renderDayCanon decodeDayCanon
  simp only [String.toList_append, List.append_assoc, rbrace, strip_append, decodeMemberCanon_render, h]

/-- a day number whose year the date rendering covers (chrono writes a sign outside 0..9999) -/
def DateWf (rd : Int) : Prop := 0 ≤ (fromRD rd).y ∧ (fromRD rd).y ≤ 9999

theorem decodeDate_render (rd : Int) (h : DateWf rd) (r : List Char) :
    decodeDate ('"' :: ((isoDate rd).toList ++ ('"' :: r))) = some (rd, r) := by
  obtain ⟨hy0, hy1⟩ := h
  obtain ⟨m1, m12, d1, d31, hrd, _⟩ := CivilLemmas.fromRD_valid rd
  simp only [isoDate, decodeDate, String.toList_append, List.append_assoc, dash, List.cons_append, List.nil_append,
    strip_char, takeNum_pad4 _ (by omega : (fromRD rd).y.toNat < 10000),
    takeNum_pad2 _ (by omega : (fromRD rd).m.toNat < 100), takeNum_pad2 _ (by omega : (fromRD rd).d.toNat < 100)]
  rw [Int.toNat_of_nonneg hy0, Int.toNat_of_nonneg (by omega), Int.toNat_of_nonneg (by omega), hrd]

def EntryWf (e : Int × DayTimes) : Prop := DateWf e.1 ∧ DayWf e.2

/-- the text of one entry, given the rendering of a day -/
def entryText (ren : DayTimes → String) (e : Int × DayTimes) : List Char :=
  '"' :: ((isoDate e.1).toList ++ ('"' :: ':' :: (ren e.2).toList))

/-- the text of one entry -/
def entryL (e : Int × DayTimes) : List Char :=
  '"' :: ((isoDate e.1).toList ++ ('"' :: ':' :: (renderDay e.2).toList))

theorem decodeEntry_render (e : Int × DayTimes) (h : EntryWf e) (r : List Char) :
    decodeEntry (entryL e ++ r) = some (e, r) := by
  simp only [decodeEntry, entryL, List.cons_append, List.append_assoc, decodeDate_render e.1 h.1, strip_char,
    decodeDay_render e.2 h.2]

theorem decodeEntryCanon_render (e : Int × DayTimes) (h : EntryWf e) (r : List Char) :
    decodeEntryCanon (entryText renderDayCanon e ++ r) = some (e, r) := by
  simp only [decodeEntryCanon, entryText, List.cons_append, List.append_assoc, decodeDate_render e.1 h.1, strip_char,
    decodeDayCanon_render e.2 h.2]

/-! ### lists of entries, whatever the entry decoder -/
section entries

/-- `decodeEntries` as a function of the entry decoder -/
def sepBy (dec : List Char → Option ((Int × DayTimes) × List Char)) :
    Nat → List Char → Option (List (Int × DayTimes) × List Char)
  | 0, _ => none
  | fuel + 1, s =>
    match dec s with
    | none => none
    | some (e, s) =>
      match s with
      | ',' :: s' =>
        match sepBy dec fuel s' with
        | none => none
        | some (rest, s'') => some (e :: rest, s'')
      | _ => some ([e], s)

/-- `decodeRangeL` as a function of the entry decoder -/
def braced (dec : List Char → Option ((Int × DayTimes) × List Char)) (s : List Char) :
    Option (List (Int × DayTimes)) :=
  match stripPrefix? ['{'] s with
  | none => none
  | some s' =>
    if s' = ['}'] then some []
    else
      match sepBy dec s'.length s' with
      | none => none
      | some (l, r) => if r = ['}'] then some l else none

theorem decodeEntries_eq (fuel : Nat) : decodeEntries fuel = sepBy decodeEntry fuel := by
  induction fuel with
  | zero => rfl
  -- after the rewriting the two sides differ only in the names of the auxiliary functions of their `match`es
  | succ n ih => funext s; rw [decodeEntries, sepBy, ih]; rfl

theorem decodeEntriesCanon_eq (fuel : Nat) : decodeEntriesCanon fuel = sepBy decodeEntryCanon fuel := by
  induction fuel with
  | zero => rfl
  | succ n ih => funext s; rw [decodeEntriesCanon, sepBy, ih]; rfl

theorem decodeRangeL_eq : decodeRangeL = braced decodeEntry := by
  funext s; simp only [decodeRangeL, decodeEntries_eq]; rfl

theorem decodeRangeCanonL_eq : decodeRangeCanonL = braced decodeEntryCanon := by
  funext s; simp only [decodeRangeCanonL, decodeEntriesCanon_eq]; rfl

variable {dec : List Char → Option ((Int × DayTimes) × List Char)} {ren : Int × DayTimes → List Char}
  {wf : Int × DayTimes → Prop}

theorem length_le_intercalate (hne : ∀ e, ren e ≠ []) (es : List (Int × DayTimes)) :
    es.length ≤ ([','].intercalate (es.map ren)).length := by
  induction es with
  | nil => exact Nat.zero_le _
  | cons e rest ih =>
    have := List.length_pos_iff.mpr (hne e)
    cases rest <;>
      simp only [List.map_cons, List.map_nil, List.intercalate_singleton, List.intercalate_cons_cons,
        List.length_append, List.length_cons, List.length_nil] at ih ⊢ <;> omega

/-- entries that `dec` reads back, separated by commas, are read back by `sepBy dec`, provided the rest `r`
    after the last one does not start with a comma -/
theorem sepBy_render (hdec : ∀ e, wf e → ∀ r, dec (ren e ++ r) = some (e, r))
    (es : List (Int × DayTimes)) (hne : es ≠ []) (h : ∀ e ∈ es, wf e) (r : List Char) (hr : ∀ q, r ≠ ',' :: q)
    (fuel : Nat) (hf : es.length ≤ fuel) :
    sepBy dec fuel ([','].intercalate (es.map ren) ++ r) = some (es, r) := by
  induction es generalizing fuel with
  | nil => exact absurd rfl hne
  | cons e rest ih =>
    cases fuel with
    | zero => cases hf
    | succ fuel =>
      have he := hdec e (h e List.mem_cons_self)
      cases rest with
      | nil =>
        rw [List.map_singleton, List.intercalate_singleton, sepBy, he]
        dsimp only
        split
        · exact absurd rfl (hr _)
        · rfl
      | cons e2 rest2 =>
        rw [List.map_cons, List.map_cons, List.intercalate_cons_cons, ← List.map_cons, List.append_assoc,
          List.append_assoc, sepBy, he]
        simp only [List.cons_append, List.nil_append,
          ih (List.cons_ne_nil _ _) (fun x hx => h x (List.mem_cons_of_mem _ hx)) fuel (Nat.le_of_succ_le_succ hf)]

/-- the whole document: `{`, entries that `dec` reads back (none of them empty) separated by commas, `}` -/
theorem braced_render (hdec : ∀ e, wf e → ∀ r, dec (ren e ++ r) = some (e, r)) (hne : ∀ e, ren e ≠ [])
    (es : List (Int × DayTimes)) (h : ∀ e ∈ es, wf e) :
    braced dec ('{' :: ([','].intercalate (es.map ren) ++ ['}'])) = some es := by
  rw [braced, strip_char]
  cases es with
  | nil => rfl
  | cons e rest =>
    have hl := length_le_intercalate hne (e :: rest)
    have ht : [','].intercalate ((e :: rest).map ren) ++ ['}'] ≠ ['}'] := fun hc => by
      have := congrArg List.length hc
      simp only [List.length_append, List.length_cons, List.length_nil] at this hl
      omega
    dsimp only
    rw [if_neg ht, sepBy_render hdec _ (List.cons_ne_nil _ _) h ['}'] (by simp) _
      (by rw [List.length_append]; omega)]
    rfl

/-- the characters of a document: `{`, the entries separated by commas, `}` -/
theorem range_toList (day : DayTimes → String) (days : List (Int × DayTimes)) :
    ("{" ++ ",".intercalate (days.map fun (rd, d) => "\"" ++ isoDate rd ++ "\":" ++ day d) ++ "}").toList =
      '{' :: ([','].intercalate (days.map (entryText day)) ++ ['}']) := by
  have e : (String.toList ∘ fun (x : Int × DayTimes) =>
      match x with | (rd, d) => "\"" ++ isoDate rd ++ "\":" ++ day d) = entryText day := by
    funext ⟨rd, d⟩
    simp only [Function.comp, String.toList_append, quote, quoteColon, entryText, List.append_assoc,
      List.cons_append, List.nil_append]
  simp only [String.toList_append, String.toList_intercalate, List.map_map, e, lbrace, rbrace, comma,
    List.cons_append, List.nil_append]

theorem renderRange_toList (days : List (Int × DayTimes)) :
    (renderRange days).toList = '{' :: ([','].intercalate (days.map entryL) ++ ['}']) :=
  range_toList renderDay days

theorem renderRangeCanon_toList (days : List (Int × DayTimes)) :
    (renderRangeCanon days).toList = '{' :: ([','].intercalate (days.map (entryText renderDayCanon)) ++ ['}']) :=
  range_toList renderDayCanon days

end entries

theorem decodeEntries_render (es : List (Int × DayTimes)) (hne : es ≠ []) (h : ∀ e ∈ es, EntryWf e)
    (r : List Char) (hr : ∀ q, r ≠ ',' :: q) (fuel : Nat) (hf : es.length ≤ fuel) :
    decodeEntries fuel ([','].intercalate (es.map entryL) ++ r) = some (es, r) := by
  rw [decodeEntries_eq]
  exact sepBy_render decodeEntry_render es hne h r hr fuel hf

/-! ### what the conversion to clock times returns (Model/Times) -/

end IPT.JsonLemmas
