import IPT.Lemmas.Trig
import IPT.Lemmas.Angle
/- the hour functions of Model/Hours.lean over ℝ.  Fajr, Isha and Asr are Dhuhr ∓ `arcHours r` for the
   hour-angle cosine r of their target altitude, whenever r passes the guard; the rise/set offset is the same
   arc in day fractions.  So every order between them is an order between cosines, i.e. between target altitudes. -/
namespace IPT.HoursLemmas
open IPT IPT.TrigLemmas IPT.AngleLemmas Real

theorem hpd_pos : 0 < (Gen.DEGREES_TO_10_BASE : ℝ) := by rw [c_DEGREES_TO_10_BASE]; norm_num

/-- the hour angle whose cosine is `r`, in hours of time: the offset of Fajr, Isha and Asr from Dhuhr -/
noncomputable def arcHours (r : ℝ) : ℝ := Gen.DEGREES_TO_10_BASE * toDegrees (arccos r)

theorem arcHours_div (r : ℝ) : arcHours r / Gen.DEGREES_TO_10_BASE = toDegrees (arccos r) :=
  mul_div_cancel_left₀ _ hpd_pos.ne'

theorem arcHours_nonneg (r : ℝ) : 0 ≤ arcHours r :=
  mul_nonneg hpd_pos.le (toDegrees_nonneg (arccos_nonneg r))

theorem arcHours_le (r : ℝ) : arcHours r ≤ 180 * Gen.DEGREES_TO_10_BASE := by
  rw [mul_comm 180]
  exact mul_le_mul_of_nonneg_left ((toDegrees_le (arccos_le_pi r)).trans_eq toDegrees_pi) hpd_pos.le

theorem arcHours_pos {r : ℝ} (h : r < 1) : 0 < arcHours r := mul_pos hpd_pos (arcDeg_pos h)

theorem arcHours_anti {r r' : ℝ} (h : r ≤ r') : arcHours r' ≤ arcHours r :=
  mul_le_mul_of_nonneg_left (arcDeg_anti h) hpd_pos.le

theorem arcHours_strictAnti {r r' : ℝ} (h1 : -1 ≤ r) (h : r < r') (h2 : r' ≤ 1) : arcHours r' < arcHours r :=
  mul_lt_mul_of_pos_left (toDegrees_lt (arccos_lt_arccos h1 h h2)) hpd_pos

/-- every solver returns `some v` exactly when its hour-angle cosine passes the guard -/
theorem guard_eq_some {r v x : ℝ} :
    (if withinAbs1 r = true then some v else none) = some x ↔ (-1 ≤ r ∧ r ≤ 1) ∧ x = v := by
  rw [← withinAbs1_real, Option.ite_none_right_eq_some, Option.some.injEq, @eq_comm _ x]

theorem fajr_eq_some {aF aI lat dec dh f : ℝ} :
    (fajrIsha aF aI lat dec dh).1 = some f ↔
      (-1 ≤ twilightCos lat dec aF ∧ twilightCos lat dec aF ≤ 1) ∧ f = dh - arcHours (twilightCos lat dec aF) :=
  guard_eq_some

theorem isha_eq_some {aF aI lat dec dh i : ℝ} :
    (fajrIsha aF aI lat dec dh).2 = some i ↔
      (-1 ≤ twilightCos lat dec aI ∧ twilightCos lat dec aI ≤ 1) ∧ i = dh + arcHours (twilightCos lat dec aI) :=
  guard_eq_some

theorem getAsr_eq_some {ratio : AsrRatio} {lat dec dh a : ℝ} :
    getAsr ratio lat dec dh = some a ↔
      (-1 ≤ asrCos ratio lat dec ∧ asrCos ratio lat dec ≤ 1) ∧ a = dh + arcHours (asrCos ratio lat dec) :=
  guard_eq_some

theorem twilightCos_real (lat dec a : ℝ) :
    twilightCos lat dec a =
      (sin (toRadians (-a)) - sin (toRadians lat) * sin (toRadians dec)) /
        (cos (toRadians lat) * cos (toRadians dec)) := rfl

theorem asrCos_real (ratio : AsrRatio) (lat dec : ℝ) :
    asrCos ratio lat dec =
      (sin (arctan (1 / (asrRatio ratio + tan |toRadians lat - toRadians dec|))) -
        sin (toRadians lat) * sin (toRadians dec)) / (cos (toRadians lat) * cos (toRadians dec)) := by
  simp only [asrCos, sc_sin, sc_cos, sc_tan, sc_atan, sc_abs, lit_one]

/-- the rise/set hour-angle cosine is the twilight one at depression 0.83337° -/
theorem riseCos_eq (lat dec : ℝ) :
    (sin (toRadians (Gen.CENTER_OF_SUN_ANGLE : ℝ)) - sin (toRadians lat) * sin (toRadians dec)) /
      (cos (toRadians lat) * cos (toRadians dec)) = twilightCos lat dec (83337 / 100000) := by
  rw [twilightCos_real, c_CENTER_OF_SUN_ANGLE]

/-- rise and set are solved like a twilight of depression 0.83337°, as a fraction of a day -/
theorem shurMaghM0Adj_eq_some {lat dec adj : ℝ} :
    shurMaghM0Adj lat dec = some adj ↔
      (-1 ≤ twilightCos lat dec (83337 / 100000) ∧ twilightCos lat dec (83337 / 100000) ≤ 1) ∧
        adj = capAngle180 (toDegrees (arccos (twilightCos lat dec (83337 / 100000)))) / 360 := by
  rw [← riseCos_eq, ← c_TWO_PI_DEG]
  exact guard_eq_some

/-- …and unless the Sun only grazes that altitude at midnight (r = −1, where cap_angle_180 turns 180° into 0°)
    the offset is the arc of the cosine: cap_angle_180 leaves an angle in [0°, 180°) as it is -/
theorem shurMaghM0Adj_arc {lat dec adj : ℝ} (h : shurMaghM0Adj lat dec = some adj)
    (hr : -1 < twilightCos lat dec (83337 / 100000)) :
    360 * adj = toDegrees (arccos (twilightCos lat dec (83337 / 100000))) := by
  obtain ⟨-, rfl⟩ := shurMaghM0Adj_eq_some.mp h
  rw [capAngle180, c_PI_DEG, capAngle_of_mem (toDegrees_nonneg (arccos_nonneg _)) (arcDeg_lt hr),
    mul_div_cancel₀ _ (by norm_num)]

/-- the twilight cosine is antitone in the depression angle (angles within ±90°, cos φ cos δ > 0) -/
theorem twilightCos_antitone {lat dec a a' : ℝ}
    (hk : 0 < cos (toRadians lat) * cos (toRadians dec))
    (h0 : -90 ≤ a) (h1 : a ≤ a') (h2 : a' ≤ 90) : twilightCos lat dec a' ≤ twilightCos lat dec a :=
  div_le_div_of_nonneg_right
    (sub_le_sub_right (sin_toRadians_le (neg_le_neg h2) (neg_le_neg h1) (neg_le.mpr h0)) _) hk.le

/-- a non-negative depression is below the day's highest altitude -/
theorem twilightCos_lt_one {lat dec a : ℝ} (hk : 0 < cos (toRadians lat) * cos (toRadians dec))
    (hu : |toRadians lat - toRadians dec| < π / 2) (h0 : 0 ≤ a) (h1 : a ≤ 90) : twilightCos lat dec a < 1 :=
  haCos_lt_one hk ((sin_toRadians_neg_nonpos h0 h1).trans_lt (cos_pos_of_mem_Ioo (abs_lt.mp hu)))

theorem asrRatio_pos (r : AsrRatio) : 0 < (asrRatio r : ℝ) := by
  cases r <;> simp [asrRatio, c_ASR_SHAFI, c_ASR_HANAFI]

/-- the sine of the Asr altitude arccot (κ + tan |φ - δ|) lies strictly between 0 and cos (φ - δ), the sine of
    the noon altitude -/
theorem sin_asrAlt_bounds (ratio : AsrRatio) {φ δ : ℝ} (hu : |φ - δ| < π / 2) :
    0 < sin (arctan (1 / (asrRatio ratio + tan |φ - δ|))) ∧
      sin (arctan (1 / (asrRatio ratio + tan |φ - δ|))) < cos (φ - δ) := by
  have ht := tan_nonneg_of_nonneg_of_le_pi_div_two (abs_nonneg _) hu.le
  refine ⟨sin_arctan_pos.mpr (one_div_pos.mpr (add_pos_of_pos_of_nonneg (asrRatio_pos ratio) ht)), ?_⟩
  rw [← cos_abs]
  exact sin_arctan_inv_lt_cos (abs_nonneg _) hu (lt_add_of_pos_left _ (asrRatio_pos ratio))

theorem asrCos_lt_one {ratio : AsrRatio} {lat dec : ℝ} (hk : 0 < cos (toRadians lat) * cos (toRadians dec))
    (hu : |toRadians lat - toRadians dec| < π / 2) : asrCos ratio lat dec < 1 := by
  rw [asrCos_real]
  exact haCos_lt_one hk (sin_asrAlt_bounds ratio hu).2

/-- the Asr altitude is positive, a twilight altitude is not -/
theorem twilightCos_lt_asrCos {ratio : AsrRatio} {lat dec a : ℝ}
    (hk : 0 < cos (toRadians lat) * cos (toRadians dec)) (hu : |toRadians lat - toRadians dec| < π / 2)
    (h0 : 0 ≤ a) (h1 : a ≤ 90) : twilightCos lat dec a < asrCos ratio lat dec := by
  rw [twilightCos_real, asrCos_real]
  exact div_lt_div_of_pos_right
    (sub_lt_sub_right ((sin_toRadians_neg_nonpos h0 h1).trans_lt (sin_asrAlt_bounds ratio hu).1) _) hk

/-- get_hour_angle is the local hour angle (sidereal time advanced by 360.985647°/day, plus east longitude,
    minus the interpolated right ascension) reduced into (−180°, 180°]: the inner reduction of the sidereal
    time drops out -/
theorem hourAngle_eq (sid ra lon : ℝ) (d : ℝ × ℝ) (m : ℝ) :
    hourAngle sid ra lon d m =
      capAngleBetween180 (sid + 360985647 / 1000000 * m + lon - (ra + m * (d.1 + d.2 * m) / 2)) := by
  simp only [hourAngle, c_SIDEREAL_RATE, lit_two]
  rw [(capAngle360_spec _).2.2, ← capBetween180_periodic _ ⌊(sid + 360985647 / 1000000 * m) / 360⌋]
  congr 1; ring

theorem hourAngle_range (sid ra lon : ℝ) (d : ℝ × ℝ) (m : ℝ) :
    -180 < hourAngle sid ra lon d m ∧ hourAngle sid ra lon d m ≤ 180 := by
  rw [hourAngle_eq]
  exact ⟨(capAngleBetween180_spec _).1, (capAngleBetween180_spec _).2.1⟩

end IPT.HoursLemmas
